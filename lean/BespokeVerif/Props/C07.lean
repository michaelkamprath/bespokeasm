/-
  Property C07 — numeric expressions evaluate to their arithmetic value.
-/
import BespokeVerif.Model.Expr
import BespokeVerif.Lemmas.ExprParse
import BespokeVerif.Lemmas.ExprEval
import BespokeVerif.Lemmas.ExprLex
import BespokeVerif.Lemmas.LexFuel
namespace BV.C07
open BV EvalLemmas LexLemmas

/-- the fuel supplied at the entry point is never exhausted: "the model terminates" is not true
    merely because fuel ran out -/
theorem parse_never_out_of_fuel (ts : List Tok) : parseExpr ts ≠ .error .outOfFuel :=
  (ParseLemmas.parseExpr_onlyBad ts).noOof.ne

/-- the same for the lexer: every step consumes at least one character and reports nothing but
    `badExpression`, so the fuel `lexExpr` supplies (length of the text + 1) is never exhausted -/
theorem lex_never_out_of_fuel (s : List Char) : lexExpr s ≠ .error .outOfFuel :=
  (lexExpr_onlyBad s).noOof.ne

/-- every lexer step makes progress (the rest is strictly shorter) and fails only with `badExpression` -/
theorem lex_step_progress (cs : List Char) (r : Except Err Tok) (rest : List Char)
    (h : lexStep cs = some (r, rest)) : rest.length < cs.length ∧ ∀ e, r = .error e → e = .badExpression := by
  cases cs with
  | nil => cases h
  | cons c cs =>
    obtain ⟨hs, he⟩ := lexStep_ok c cs r rest h
    exact ⟨Nat.lt_succ_of_le hs.length_le, he⟩

/-- soundness: whatever the recursive-descent parser accepts is derivable in the grammar
    (precedence: unary/byte extraction > `* / %` > `+ -` > `<< >>` > `& | ^`, left-associative) -/
theorem parse_sound (ts : List Tok) (e : E) (h : parseExpr ts = .ok e) : Gram 0 ts e :=
  ParseLemmas.parseExpr_sound h

/-- completeness: every derivable token list is accepted, with that very tree -/
theorem parse_complete (ts : List Tok) (e : E) (h : Gram 0 ts e) : parseExpr ts = .ok e :=
  ParseLemmas.parseExpr_complete h

/-- the grammar assigns at most one tree to a token list -/
theorem gram_unambiguous (ts : List Tok) (e₁ e₂ : E) (h₁ : Gram 0 ts e₁) (h₂ : Gram 0 ts e₂) :
    e₁ = e₂ := by
  have h := (ParseLemmas.parseExpr_complete h₁).symm.trans (ParseLemmas.parseExpr_complete h₂)
  injection h

/-- token lists that are not well-formed expressions are rejected, never given a value -/
theorem malformed_rejected (ts : List Tok) (h : ¬ ∃ e, Gram 0 ts e) :
    ∃ err, parseExpr ts = .error err := by
  cases hp : parseExpr ts with
  | ok e => exact absurd ⟨e, ParseLemmas.parseExpr_sound hp⟩ h
  | error err => exact ⟨err, rfl⟩

/-- every tree, printed with minimal parentheses, is read back as itself -/
theorem parse_pp (e : E) : parseExpr (pp e) = .ok e :=
  ParseLemmas.parseExpr_complete (ParseLemmas.ppAt_gram e (Nat.zero_le _))

/-- the printer's output is derivable (so `parse_pp` is an instance of completeness) -/
theorem pp_gram (e : E) : Gram 0 (pp e) e :=
  ParseLemmas.ppAt_gram e (Nat.zero_le _)

theorem eval_add (env) (l r : E) (a b : Rat) (hl : evalE env l = .ok a) (hr : evalE env r = .ok b) :
    evalE env (.bin .add l r) = .ok (a + b) :=
  evalE_bin .add hl hr
theorem eval_sub (env) (l r : E) (a b : Rat) (hl : evalE env l = .ok a) (hr : evalE env r = .ok b) :
    evalE env (.bin .sub l r) = .ok (a - b) :=
  evalE_bin .sub hl hr
theorem eval_mul (env) (l r : E) (a b : Rat) (hl : evalE env l = .ok a) (hr : evalE env r = .ok b) :
    evalE env (.bin .mul l r) = .ok (a * b) :=
  evalE_bin .mul hl hr
/-- division yields the real (exact rational) quotient -/
theorem eval_div (env) (l r : E) (a b : Rat) (hl : evalE env l = .ok a) (hr : evalE env r = .ok b)
    (hb : b ≠ 0) : evalE env (.bin .div l r) = .ok (a / b) :=
  (evalE_bin .div hl hr).trans (if_neg hb)
theorem eval_div_zero (env) (l r : E) (a : Rat) (hl : evalE env l = .ok a) (hr : evalE env r = .ok 0) :
    evalE env (.bin .div l r) = .error .divZero := by
  rw [evalE_bin .div hl hr, applyBin, if_pos rfl]
theorem eval_neg (env) (e : E) (a : Rat) (h : evalE env e = .ok a) :
    evalE env (.neg e) = .ok (-a) := by
  simp only [evalE, h, bind, Except.bind]

/-- `%` is the floored remainder: `a = b * k + m` for an integer `k`, with `m` between 0 and `b` -/
theorem mod_spec (a b : Rat) (hb : b ≠ 0) :
    ∃ (k : Int) (m : Rat), applyBin .mod a b = .ok m ∧ a = b * (k : Rat) + m
      ∧ ((0 < b → 0 ≤ m ∧ m < b) ∧ (b < 0 → b < m ∧ m ≤ 0)) := by
  refine ⟨(a / b).floor, a - b * ((a / b).floor : Int), ?_, ?_, ?_⟩
  · simp only [applyBin, if_neg hb]
  · rw [Rat.add_comm, Rat.sub_add_cancel]
  · -- the remainder is `b * d`, where `d = a / b - ⌊a / b⌋` lies in `[0, 1)`
    have h0 : 0 ≤ a / b - ((a / b).floor : Int) := (Rat.le_iff_sub_nonneg _ _).1 (Rat.floor_le _)
    have h1 : a / b - ((a / b).floor : Int) < 1 := by
      rw [Rat.sub_lt_iff, Rat.add_comm, ← Rat.intCast_one, ← Rat.intCast_add]
      exact Rat.lt_floor_add_one _
    have e : a - b * ((a / b).floor : Int) = b * (a / b - ((a / b).floor : Int)) := by
      rw [Rat.sub_eq_add_neg (a / b), Rat.mul_add, Rat.mul_neg, ← Rat.sub_eq_add_neg, Rat.mul_comm b (a / b),
        Rat.div_mul_cancel hb]
    rw [e]
    exact ⟨fun h => mod_bounds_pos b h h0 h1, fun h => mod_bounds_neg b h h0 h1⟩

/-- the final result is truncated toward zero -/
theorem truncQ_int (n : Int) : truncQ (n : Rat) = n :=
  truncQ_intCast n
theorem truncQ_nonneg (q : Rat) (h : 0 ≤ q) : truncQ q = q.floor := by
  have hn : 0 ≤ q.num := Rat.num_nonneg.mpr h
  rw [truncQ, Rat.floor_def, Int.tdiv_eq_ediv_of_nonneg hn]
theorem truncQ_neg (q : Rat) (h : q < 0) : truncQ q = -((-q).floor) := by
  have hn : q.num ≤ 0 := Int.le_of_lt (Int.not_le.mp fun h' => Rat.not_le.mpr h (Rat.num_nonneg.mp h'))
  rw [truncQ, Rat.floor_def, Rat.neg_num, Rat.neg_den, ← Int.tdiv_eq_ediv_of_nonneg (Int.neg_nonneg_of_nonpos hn),
    Int.neg_tdiv, Int.neg_neg]

/-- shifts are multiplication / floored division by a power of two -/
theorem shl_spec (a n : Int) (hn : 0 ≤ n) :
    applyBin .shl (a : Rat) (n : Rat) = .ok ((a * (2 : Int) ^ n.toNat : Int) : Rat) := by
  simp only [applyBin, truncQ_int, if_neg (Int.not_lt.mpr hn)]
theorem shr_spec (a n : Int) (hn : 0 ≤ n) :
    applyBin .shr (a : Rat) (n : Rat) = .ok ((a / (2 : Int) ^ n.toNat : Int) : Rat) := by
  simp only [applyBin, truncQ_int, if_neg (Int.not_lt.mpr hn)]
theorem shift_negative_rejected (a n : Int) (hn : n < 0) :
    applyBin .shl (a : Rat) (n : Rat) = .error .badExpression ∧
    applyBin .shr (a : Rat) (n : Rat) = .error .badExpression := by
  simp only [applyBin, truncQ_int, if_pos hn, and_self]

/-- the bitwise operators act bit by bit on the infinite two's-complement representation -/
theorem intAnd_spec (a b : Int) (i : Nat) : bitAt (intAnd a b) i = (bitAt a i && bitAt b i) := by
  cases a <;> cases b <;>
    simp only [intAnd, bitAt_ofNat, bitAt_negSucc, Nat.testBit_and, Nat.testBit_or, testBit_sub_and,
      Bool.not_or, Bool.and_comm]
theorem intOr_spec (a b : Int) (i : Nat) : bitAt (intOr a b) i = (bitAt a i || bitAt b i) := by
  cases a <;> cases b <;>
    simp only [intOr, bitAt_ofNat, bitAt_negSucc, Nat.testBit_and, Nat.testBit_or, testBit_sub_and,
      Bool.not_and, Bool.not_not, Bool.or_comm]
theorem intXor_spec (a b : Int) (i : Nat) : bitAt (intXor a b) i = (bitAt a i != bitAt b i) := by
  cases a <;> cases b <;>
    simp only [intXor, bitAt_ofNat, bitAt_negSucc, Nat.testBit_xor] <;>
    cases Nat.testBit _ i <;> cases Nat.testBit _ i <;> rfl

/-- without `/`, every value is an integer (no rounding anywhere) -/
def NoDiv : E → Prop
  | .num _ => True
  | .label _ => True
  | .neg e => NoDiv e
  | .byteN _ e => NoDiv e
  | .bin op l r => op ≠ .div ∧ NoDiv l ∧ NoDiv r

theorem eval_int_closed (env) (e : E) (q : Rat) (hd : NoDiv e) (h : evalE env e = .ok q) :
    ∃ n : Int, q = (n : Rat) := by
  induction e generalizing q with
  | num n => exact ⟨n, (Except.ok.inj h).symm⟩
  | label s =>
    rw [evalE] at h
    split at h
    · exact ⟨_, (Except.ok.inj h).symm⟩
    · cases h
  | neg e ih =>
    rw [evalE] at h
    obtain ⟨v, hv, h⟩ := bind_eq_ok h
    obtain ⟨n, rfl⟩ := ih v hd hv
    exact ⟨-n, by rw [← Except.ok.inj h, Rat.intCast_neg]⟩
  | byteN k e ih =>
    rw [evalE] at h
    obtain ⟨v, -, h⟩ := bind_eq_ok h
    exact ⟨((byteAt _ k : Nat) : Int), by rw [← Except.ok.inj h, Rat.intCast_natCast]⟩
  | bin op l r ihl ihr =>
    obtain ⟨hop, hl, hr⟩ := hd
    rw [evalE] at h
    obtain ⟨a, ha, h⟩ := bind_eq_ok h
    obtain ⟨b, hb, h⟩ := bind_eq_ok h
    obtain ⟨x, rfl⟩ := ihl a hl ha
    obtain ⟨y, rfl⟩ := ihr b hr hb
    exact applyBin_int_closed hop h

/-- `BYTEn(x)` / `LSB(x)`: byte `n` of the two's-complement representation of `x`; the code's
    `byte_count = max(⌈bitlen|x|/8⌉, n+1)` masking computes exactly that -/
theorem byteN_spec (x : Int) (n : Nat) : byteNImpl x n = byteAt x n :=
  EvalLemmas.byteN_spec x n

theorem byteAt_lt (x : Int) (n : Nat) : byteAt x n < 256 := by
  unfold byteAt
  omega

/-- byte `n` collects bits `8n … 8n+7` -/
theorem byteAt_bits (x : Int) (n i : Nat) (hi : i < 8) :
    (byteAt x n).testBit i = bitAt x (8 * n + i) :=
  byteAt_testBit hi

theorem lex_decimal (n : Nat) : lexExpr (Nat.toDigits 10 n) = .ok [.num n] :=
  LexLemmas.lex_decimal n
theorem lex_hex_dollar (n : Nat) : lexExpr ('$' :: Nat.toDigits 16 n) = .ok [.num n] :=
  lex_numeral .dollar n

theorem lex_hex_0x (n : Nat) : lexExpr ('0' :: 'x' :: Nat.toDigits 16 n) = .ok [.num n] :=
  lex_numeral .zerox n

theorem lex_bin_percent (n : Nat) : lexExpr ('%' :: Nat.toDigits 2 n) = .ok [.num n] :=
  lex_numeral .percent n

theorem lex_bin_b (n : Nat) : lexExpr ('b' :: Nat.toDigits 2 n) = .ok [.num n] :=
  lex_numeral .b n

/-- Without the hypothesis (`∀ n, lexExpr (Nat.toDigits 16 n ++ ['H']) = .ok [.num n]`) the statement is
    false (`LexLemmas.lex_hex_H_false`): the binary alternative `(?:\%|b)[01]+` comes first in the pattern, so a hex string that
    starts with `b0…` / `b1…` is read as a binary literal (`b1H` lexes as `1` followed by label `H`).
    The hypothesis excludes exactly those strings (it is necessary and sufficient, see
    `lex_hex_H_iff`). -/
theorem lex_hex_H_partial (n : Nat)
    (h : ∀ d ds, Nat.toDigits 16 n = 'b' :: d :: ds → isBinDigit d = false) :
    lexExpr (Nat.toDigits 16 n ++ ['H']) = .ok [.num n] :=
  LexLemmas.lex_hex_H_partial n h
/-- the counterexample: `b1H` (n = 0xb1 = 177) -/
theorem lex_hex_H_counterexample :
    lexExpr (Nat.toDigits 16 177 ++ ['H']) = .ok [.num 1, .label "H"] :=
  LexLemmas.lex_hex_H_counterexample
/-- the side condition of `lex_hex_H_partial` is exactly what is needed -/
theorem lex_hex_H_iff (n : Nat) :
    lexExpr (Nat.toDigits 16 n ++ ['H']) = .ok [.num n] ↔
      ∀ d ds, Nat.toDigits 16 n = 'b' :: d :: ds → isBinDigit d = false := by
  refine ⟨fun h d ds hds => ?_, lex_hex_H_partial n⟩
  cases hd : isBinDigit d with
  | false => rfl
  | true =>
    rw [hds] at h
    exact absurd h (lex_hex_H_bad hd)
/-- arithmetic reading of the side condition: no hex prefix of `n` equals `b0` or `b1` -/
theorem lex_hex_H_iff_arith (n : Nat) :
    lexExpr (Nat.toDigits 16 n ++ ['H']) = .ok [.num n] ↔
      ∀ k, n / 16 ^ k ≠ 176 ∧ n / 16 ^ k ≠ 177 :=
  (lex_hex_H_iff n).trans (hexH_ok_iff n)

theorem lex_char (c : Char) : lexExpr ['\'', c, '\''] = .ok [.num c.toNat] :=
  lexExpr_single (lexStep_char c [])

/-- non-vacuity / concrete readings of precedence and associativity -/
example : evalText (fun _ => none) "-1 + 2".toList = .ok 1 := by decide +kernel
example : evalText (fun _ => none) "1/49*49".toList = .ok 1 := by decide +kernel
example : evalText (fun _ => none) "2 + 3 * 4 << 1 & $ff".toList = .ok 28 := by decide +kernel
example : evalText (fun _ => none) "8 - 2 - 2".toList = .ok 4 := by decide +kernel
example : evalText (fun _ => none) "BYTE1(-256)".toList = .ok 255 := by decide +kernel
example : evalText (fun _ => none) "-7/2".toList = .ok (-3) := by decide +kernel
example : evalText (fun _ => none) "1 +! 2".toList = .error .badExpression := by decide +kernel

end BV.C07
