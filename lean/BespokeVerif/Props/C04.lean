/-
  Property C04 — two lines never silently occupy the same address.
-/
import BespokeVerif.Model.Layout
import BespokeVerif.Lemmas.Image
import BespokeVerif.Lemmas.ImageFast
namespace BV.C04
open BV

/-- the byte-producing lines that occupy at least one address -/
def occupying (es : List Emitted) : List Emitted := es.filter fun e => e.isByte && decide (e.size > 0)

/-- two lines occupy no common address -/
def Disjoint (e e' : Emitted) : Prop := e.addr + e.size ≤ e'.addr ∨ e'.addr + e'.size ≤ e.addr

def SortedByAddr (es : List Emitted) : Prop := es.Pairwise fun a b => a.addr ≤ b.addr

/-- the sort used before the second pass: a permutation, sorted, and stable -/
theorem sortByAddr_perm (ps : List Placed) : (sortByAddr ps).Perm ps := by
  exact sortByAddr_perm' ps

theorem sortByAddr_sorted (ps : List Placed) : (sortByAddr ps).Pairwise fun a b => a.addr ≤ b.addr := by
  rw [sortByAddr_eq]
  exact sortBy_sorted (fun a b : Placed => a.addr ≤ b.addr) (fun h => Int.le_of_lt (Int.not_le.mp h)) Int.le_trans ps

theorem sortByAddr_stable (ps : List Placed) (a : Int) :
    (sortByAddr ps).filter (fun p => p.addr == a) = ps.filter (fun p => p.addr == a) := by
  rw [sortByAddr_eq]
  exact sortBy_filter _ _ (fun h hx => by simp only [beq_iff_eq, beq_eq_false_iff_ne] at hx ⊢; omega) ps

/-- "never silently occupy": if the adjacent-range check passes on an address-sorted list, all
    occupying lines are pairwise disjoint -/
theorem overlap_ok_disjoint {es : List Emitted} (hs : SortedByAddr es)
    (h : overlapCheck none es = .ok ()) : (occupying es).Pairwise Disjoint := by
  have hc := (overlapCheck_ok_iff.mp h).2
  exact hc.imp fun hab => Or.inl hab

/-- "never rejected when disjoint": pairwise disjoint occupying lines always pass -/
theorem disjoint_overlap_ok {es : List Emitted} (hs : SortedByAddr es)
    (h : (occupying es).Pairwise Disjoint) : overlapCheck none es = .ok () := by
  refine overlapCheck_ok_iff.mpr ⟨fun _ hl => (nomatch hl), ?_⟩
  -- on a sorted list the earlier of two disjoint occupying lines ends before the later one begins
  refine ((hs.filter occ).and h).imp_of_mem ?_
  intro e e' _ he' ⟨hle, hd⟩
  have := occ_size_pos (List.mem_filter.mp he').2
  rcases hd with hd | hd
  · exact hd
  · omega

/-- the only way the check fails is the overlap error -/
theorem overlap_error_kind {es : List Emitted} {e : Err} (h : overlapCheck none es = .error e) :
    e = .overlap := by
  exact overlapCheck_error_kind e h

/-- the verdict does not depend on the source order of the lines (files, zones, origins): any
    two address-sorted arrangements of the same lines get the same verdict -/
theorem overlap_order_independent (es es' : List Emitted) (hp : es.Perm es') (hs : SortedByAddr es)
    (hs' : SortedByAddr es') : overlapCheck none es = overlapCheck none es' := by
  -- a passing check stays passing: disjointness is symmetric, so it does not depend on the order
  have key : ∀ {l l' : List Emitted}, l.Perm l' → SortedByAddr l → SortedByAddr l' →
      overlapCheck none l = .ok () → overlapCheck none l' = .ok () := by
    intro l l' hpl hsl hsl' hok
    have hpl' : (occupying l).Perm (occupying l') := hpl.filter _
    exact disjoint_overlap_ok hsl' ((hpl'.pairwise_iff fun h => Or.symm h).mp (overlap_ok_disjoint hsl hok))
  -- and a failing one fails with the one error there is
  cases h1 : overlapCheck none es with
  | ok u => exact (key hp hs hs' h1).symm
  | error er =>
    cases h2 : overlapCheck none es' with
    | ok u =>
      rw [key hp.symm hs' hs h2] at h1
      cases h1
    | error er' => rw [overlap_error_kind h1, overlap_error_kind h2]

/-- a line that emits no byte never causes a rejection -/
theorem empty_line_irrelevant (es₁ es₂ : List Emitted) (e : Emitted) (he : e.size ≤ 0) :
    overlapCheck none (es₁ ++ e :: es₂) = overlapCheck none (es₁ ++ es₂) := by
  have ho : ¬ occ e = true := by
    simp only [occ, Bool.and_eq_true, decide_eq_true_eq]
    omega
  rw [overlapCheck_filter, overlapCheck_filter (es₁ ++ es₂), List.filter_append, List.filter_append,
    List.filter_cons_of_neg ho]

/-- non-vacuity -/
example : overlapCheck none [⟨0, 2, [1, 2], false, true⟩, ⟨1, 1, [9], true, true⟩] = .error .overlap := by
  decide +kernel
example : overlapCheck none [⟨0, 2, [1, 2], false, true⟩, ⟨1, 0, [], false, true⟩, ⟨2, 1, [9], false, true⟩] = .ok () := by
  decide +kernel

/-- the emitted lines of any program are sorted by address: the hypothesis `SortedByAddr` of the
    theorems above holds for them -/
theorem emitted_sorted (cfg : Cfg) (files : List (List Stmt)) (es : List Emitted) (L : Labels)
    (h : assembleLines cfg files = .ok (es, L)) : SortedByAddr es := by
  obtain ⟨sorted, hp, he⟩ := assembleLines_ok h
  obtain ⟨_, _, _, _, _, _, _, _, _, _, rfl⟩ := assemblePlaced_ok hp
  exact emitAll_sorted he (sortByAddr_sorted _)

/-- hence, for every program: the overlap check passes iff its occupying byte lines are pairwise
    disjoint -/
theorem check_passes_iff_disjoint (cfg : Cfg) (files : List (List Stmt)) (es : List Emitted) (L : Labels)
    (h : assembleLines cfg files = .ok (es, L)) :
    overlapCheck none es = .ok () ↔ (occupying es).Pairwise Disjoint :=
  ⟨overlap_ok_disjoint (emitted_sorted cfg files es L h), disjoint_overlap_ok (emitted_sorted cfg files es L h)⟩

/-- an accepted program has pairwise disjoint byte lines ("never silently occupy the same address") -/
theorem accepted_program_disjoint (cfg : Cfg) (files : List (List Stmt)) (start : Int) (stop : Option Int) (fill : Nat)
    (o : Outcome) (h : assemble cfg files start stop fill = .ok o) : (occupying o.emitted).Pairwise Disjoint := by
  obtain ⟨es, L, hl, ho, rfl⟩ := assemble_ok h
  exact (check_passes_iff_disjoint cfg files es L hl).mp ho

/-- ... and a program whose byte lines are not pairwise disjoint is rejected, with the overlap error -/
theorem overlapping_program_rejected (cfg : Cfg) (files : List (List Stmt)) (start : Int) (stop : Option Int) (fill : Nat)
    (es : List Emitted) (L : Labels) (hl : assembleLines cfg files = .ok (es, L))
    (hov : ¬ (occupying es).Pairwise Disjoint) : assemble cfg files start stop fill = .error .overlap := by
  unfold assemble
  rw [hl]
  simp only [bind, Except.bind]
  cases ho : overlapCheck none es with
  | ok u => exact absurd ((check_passes_iff_disjoint cfg files es L hl).mp ho) hov
  | error e => rw [overlap_error_kind ho]

end BV.C04
