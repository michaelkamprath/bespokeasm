/-
  Property C13 — variant and operand selection follows the documented priority only.
-/
import BespokeVerif.Model.Select
import BespokeVerif.Lemmas.Select
namespace BV.C13
open BV

/-- variants are tried in definition order and the first whose operand pattern accepts is used -/
theorem select_first (regs : List String) (gz : Int × Int) (vs : List VariantCfg) (fs : List Form) (i j : Nat)
    (v : VariantCfg) (m : Matched) (h : selectVariant regs gz vs fs i = .ok (j, v, m)) :
    ∃ pre post, vs = pre ++ v :: post ∧ j = i + pre.length ∧
      (∀ u ∈ pre, ∃ r, matchVariant regs gz u fs = r ∧ (match r with | .decline => True | _ => False)) ∧
      (∃ r, matchVariant regs gz v fs = r ∧ (match r with | .ok _ => True | _ => False)) := by
  obtain ⟨pre, post, hl, hj, hpre, hv⟩ := selectVariant_ok h
  refine ⟨pre, post, hl, hj, ?_, ⟨_, rfl, ?_⟩⟩
  · intro u hu
    exact ⟨_, rfl, by rw [hpre u hu]; trivial⟩
  · rw [hv]; trivial

/-- a statement no variant accepts is rejected, and only then (hard errors aside) -/
theorem select_decline_iff (regs : List String) (gz : Int × Int) (vs : List VariantCfg) (fs : List Form) (i : Nat) :
    (match selectVariant regs gz vs fs i with | .decline => True | _ => False) ↔
      ∀ v ∈ vs, (match matchVariant regs gz v fs with | .decline => True | _ => False) := by
  constructor
  · intro h v hv
    split at h
    · next hd => rw [selectVariant_decline_iff.mp hd v hv]; trivial
    · exact h.elim
  · intro h
    rw [selectVariant_decline_iff.mpr fun v hv => ?_]
    · trivial
    · have hv := h v hv
      split at hv
      · assumption
      · exact hv.elim

/-- the variant index reported is the position in the definition -/
theorem select_index (regs : List String) (gz : Int × Int) (vs : List VariantCfg) (fs : List Form) (j : Nat)
    (v : VariantCfg) (m : Matched) (h : selectVariant regs gz vs fs 0 = .ok (j, v, m)) : vs[j]? = some v := by
  obtain ⟨pre, post, hl, hj, -, -⟩ := selectVariant_ok h
  subst hl
  simp [hj]

/-- within a variant, explicitly listed operand combinations are tried before operand sets -/
theorem specific_before_sets (regs : List String) (gz : Int × Int) (v : VariantCfg) (fs : List Form) (count : Nat)
    (m : Matched) (hc : v.count = some count) (hne : ¬ (count = 0 ∧ fs = []))
    (hs : ∃ r, matchSpecific regs gz count v.specific fs = r ∧ (match r with | .ok m' => m'.ops.map (·.id) = m.ops.map (·.id) | _ => False)) :
    ∃ r, matchVariant regs gz v fs = r ∧ (match r with | .ok m' => m'.ops.map (·.id) = m.ops.map (·.id) | _ => False) := by
  obtain ⟨r, hr, hm⟩ := hs
  refine ⟨_, rfl, ?_⟩
  rw [matchVariant_count hc hne, hr]
  cases r with
  | ok m' => exact hm
  | decline => exact hm.elim
  | hard => exact hm.elim

/-- … and the disallowed list is about combinations made from the operand sets only: whatever the `operand_sets`
    section (its sets, its disallowed list, absent altogether) says, an explicitly listed combination that matches is
    the match of the variant -/
theorem explicit_combination_ignores_disallowed (regs : List String) (gz : Int × Int) (v : VariantCfg) (fs : List Form)
    (count : Nat) (m : Matched) (hc : v.count = some count) (hne : ¬ (count = 0 ∧ fs = []))
    (hs : matchSpecific regs gz count v.specific fs = .ok m) (sets' : Option SetsCfg) :
    matchVariant regs gz { v with sets := sets' } fs = .ok m := by
  rw [matchVariant_count (v := { v with sets := sets' }) hc hne, hs]

/-- disallowed combinations are skipped -/
theorem disallowed_skipped (regs : List String) (gz : Int × Int) (v : VariantCfg) (fs : List Form) (count : Nat)
    (sc : SetsCfg) (ps : List ParsedOp) (hc : v.count = some count) (hne : ¬ (count = 0 ∧ fs = []))
    (hsp : ∃ r, matchSpecific regs gz count v.specific fs = r ∧ (match r with | .decline => True | _ => False))
    (hs : v.sets = some sc) (hlen : fs.length = sc.sets.length)
    (hm : ∃ r, matchSets regs gz sc.sets fs = r ∧ (match r with | .ok ps' => ps'.map (·.id) = ps.map (·.id) | _ => False))
    (hd : sc.disallowed.contains (ps.map (·.id)) = true) :
    (match matchVariant regs gz v fs with | .decline => True | _ => False) := by
  obtain ⟨r, hr, hrd⟩ := hsp
  obtain ⟨r', hr', hm'⟩ := hm
  rw [matchVariant_count hc hne, hr]
  cases r with
  | ok _ => exact hrd.elim
  | hard => exact hrd.elim
  | decline =>
    cases r' with
    | ok ps' => simp only [hs, hlen, hr', hm', hd, ne_eq, not_true_eq_false, ↓reduceIte]
    | decline => exact hm'.elim
    | hard => exact hm'.elim

/-- within an operand set the alternatives are tried in rank order, ties in definition order, and
    the first that accepts wins: everything before it in that order declined -/
theorem set_priority (regs : List String) (gz : Int × Int) (set : List (String × OperandCfg)) (f : Form) (p : ParsedOp)
    (h : ∃ r, matchSet regs gz set f = r ∧ (match r with | .ok p' => p'.id = p.id | _ => False)) :
    ∃ pre x post, sortByRank (fun (y : String × OperandCfg) => y.2.rank) set = pre ++ x :: post ∧
      (match accepts regs gz x.1 x.2 f with | .ok p' => p'.id = p.id | _ => False) ∧
      ∀ y ∈ pre, (match accepts regs gz y.1 y.2 f with | .decline => True | _ => False) := by
  obtain ⟨r, hr, hm⟩ := h
  cases r with
  | ok p' =>
    obtain ⟨pre, x, post, hl, hx, hpre⟩ := firstAccept_ok hr
    refine ⟨pre, x, post, hl, ?_, ?_⟩
    · rw [hx]; exact hm
    · intro y hy; rw [hpre y hy]; trivial
  | decline => exact hm.elim
  | hard => exact hm.elim

/-- the order used inside a set: a stable sort by type rank -/
theorem sortByRank_perm {α : Type} (rank : α → Nat) (l : List α) : (sortByRank rank l).Perm l := by
  rw [sortByRank_eq]; exact sortBy_perm _ l

theorem sortByRank_sorted {α : Type} (rank : α → Nat) (l : List α) :
    (sortByRank rank l).Pairwise fun a b => rank a ≤ rank b := by
  rw [sortByRank_eq]
  exact sortBy_sorted (fun a b : α => rank a ≤ rank b) (fun h => by omega) Nat.le_trans l

theorem sortByRank_stable {α : Type} (rank : α → Nat) (l : List α) (k : Nat) :
    (sortByRank rank l).filter (fun a => rank a == k) = l.filter (fun a => rank a == k) := by
  rw [sortByRank_eq]
  exact sortBy_filter _ _ (fun h hx => by simp only [beq_iff_eq, beq_eq_false_iff_ne] at hx ⊢; omega) l

/-- bracketed and register-indexed forms are tried before enumeration keys and plain registers,
    which are tried before numeric expressions -/
theorem rank_order (r : String) (c : Option CodeCfg) (o : Option ArgCfg) (a : ArgCfg) (ix : List (String × IdxCfg))
    (ec : Option (Nat × CodePos × List (String × Int))) (d : List (String × Int)) (p q : String) (va : Bool)
    (zs ze : Int) (sl : Bool) (mn mx : Option Int) (fe cu : Bool) (n : Nat) (pos : CodePos) (lo hi : Int) :
    (OperandCfg.indReg r c o p q).rank < (OperandCfg.indIdxReg r c ix).rank ∧
    (OperandCfg.indIdxReg r c ix).rank < (OperandCfg.indNum c a).rank ∧
    (OperandCfg.indNum c a).rank < (OperandCfg.defNum c a).rank ∧
    (OperandCfg.defNum c a).rank < (OperandCfg.idxReg r c ix).rank ∧
    (OperandCfg.idxReg r c ix).rank < (OperandCfg.enumeration ec a d).rank ∧
    (OperandCfg.enumeration ec a d).rank < (OperandCfg.register r c p q).rank ∧
    (OperandCfg.register r c p q).rank < (OperandCfg.numeric c a va).rank ∧
    (OperandCfg.numeric c a va).rank < (OperandCfg.address c a zs ze sl).rank ∧
    (OperandCfg.address c a zs ze sl).rank < (OperandCfg.relAddr c a mn mx fe cu).rank ∧
    (OperandCfg.relAddr c a mn mx fe cu).rank < (OperandCfg.numBytecode n pos lo hi).rank := by
  simp [OperandCfg.rank]

set_option linter.unusedVariables false in
/-- a register name is never accepted where a numeric expression or label is expected -/
theorem register_never_numeric (regs : List String) (gz : Int × Int) (id : String) (c : OperandCfg) (e : E) (p : ParsedOp)
    (hc : match c with
          | .numeric .. | .address .. | .relAddr .. | .numBytecode .. => True
          | _ => False)
    (h : ∃ r, accepts regs gz id c (.plain e) = r ∧ (match r with | .ok _ => True | _ => False)) :
    hasReg regs e = false := by
  obtain ⟨r, hr, hok⟩ := h
  cases hh : hasReg regs e with
  | false => rfl
  | true =>
    rw [accepts_plain_of_hasReg gz id hc hh] at hr
    subst hr
    exact hok.elim

theorem register_never_numeric_bracketed (regs : List String) (gz : Int × Int) (id : String) (code : Option CodeCfg)
    (arg : ArgCfg) (e : E)
    (h : ∃ r, accepts regs gz id (.indNum code arg) (.ind e) = r ∧ (match r with | .ok _ => True | _ => False)) :
    hasReg regs e = false := by
  obtain ⟨r, hr, hok⟩ := h
  cases hh : hasReg regs e with
  | false => rfl
  | true =>
    rw [accepts_indNum_of_hasReg gz id code arg hh] at hr
    subst hr
    exact hok.elim

/-- what "contains a register name" means: some label anywhere in the expression — under unary minus
    and the byte-extraction functions too — equals a declared register name up to letter case -/
theorem hasReg_iff (regs : List String) (e : E) :
    hasReg regs e = true ↔ ∃ n ∈ labelsOf e, ∃ r ∈ regs, r.toLower = n.toLower := by
  unfold hasReg isRegName
  simp only [List.any_eq_true, beq_iff_eq]

theorem hasReg_neg (regs : List String) (e : E) : hasReg regs (.neg e) = hasReg regs e := rfl
theorem hasReg_byteN (regs : List String) (k : Nat) (e : E) : hasReg regs (.byteN k e) = hasReg regs e := rfl
theorem hasReg_bin (regs : List String) (o : BinOp) (l r : E) :
    hasReg regs (.bin o l r) = (hasReg regs l || hasReg regs r) := by
  simp [hasReg, labelsOf, List.any_append]

/-- a register name written in any letter case, bare or under unary operators, is refused by every
    numeric-style operand (so the statement is left to a later alternative or variant) -/
theorem register_any_case_refused (regs : List String) (gz : Int × Int) (id : String) (code : Option CodeCfg)
    (arg : ArgCfg) (va : Bool) (r n : String) (hr : r ∈ regs) (hn : r.toLower = n.toLower) :
    accepts regs gz id (.numeric code arg va) (.plain (.label n)) = .decline ∧
    accepts regs gz id (.numeric code arg va) (.plain (.neg (.label n))) = .decline ∧
    accepts regs gz id (.numeric code arg va) (.plain (.byteN 0 (.label n))) = .decline := by
  have h : hasReg regs (.label n) = true := (hasReg_iff regs _).mpr ⟨n, List.mem_singleton_self n, r, hr, hn⟩
  -- `hasReg` looks through unary minus and byte extraction (`hasReg_neg`, `hasReg_byteN`)
  exact ⟨accepts_plain_of_hasReg gz id trivial h, accepts_plain_of_hasReg gz id trivial h,
    accepts_plain_of_hasReg gz id trivial h⟩

/-- a plain register operand accepts exactly its own name, in any letter case -/
theorem register_accepts_iff (regs : List String) (gz : Int × Int) (id r s : String) (code : Option CodeCfg) :
    (match accepts regs gz id (.register r code "" "") (.plain (.label s)) with | .ok _ => True | _ => False) ↔
      s.toLower = r.toLower := by
  rw [accepts_register_plain_label]
  by_cases hh : s.toLower = r.toLower <;> simp [eqIgnoreCase, hh]

/-- non-vacuity: `[a+5]` with an indirect register (rank 2) and an indirect indexed register
    (rank 3) in one set selects the former whatever the definition order -/
example :
    let ir : String × OperandCfg := ("ir", .indReg "a" (some ⟨1, 4, .suffix⟩) (some ⟨8, true, false⟩) "" "")
    let ii : String × OperandCfg := ("ii", .indIdxReg "a" (some ⟨2, 4, .suffix⟩) [("n", .numeric none ⟨8, true, false⟩)])
    let f : Form := .ind (.bin .add (.label "a") (.num 5))
    (match matchSet ["a"] (0, 65535) [ii, ir] f with | .ok p => p.id == "ir" | _ => false) = true ∧
    (match matchSet ["a"] (0, 65535) [ir, ii] f with | .ok p => p.id == "ir" | _ => false) = true := by
  decide +kernel

end BV.C13
