/-
  Property C08 — conditional assembly selects exactly the lines of the taken branches.
-/
import BespokeVerif.Model.Cond
import BespokeVerif.Lemmas.Cond
import BespokeVerif.Lemmas.ExprEval
namespace BV.C08
open BV

/-- Main refinement: running the condition-stack machine over the directive stream of a list of
    well-nested blocks selects exactly what the block-tree semantics selects (same lines, same
    symbol table, same errors), and leaves the stack as it found it — for every nesting depth,
    every symbol history, and whatever enclosing chains are open (`st`). -/
theorem stack_eq_tree (bs : List Block) (st : CondStack) (s : Sel) :
    runDirs (flattenL bs) st s = (selL st.active s bs).map fun s' => (st, s') :=
  (runL_k bs).alone st s

/-- top-level corollary: a whole file -/
theorem file_selection (bs : List Block) (s : Sel) :
    runDirs (flattenL bs) [] s = (selL true s bs).map fun s' => ([], s') :=
  stack_eq_tree bs [] s

/-- no branch of a chain nested inside an unselected branch is selected, and nothing in it is
    evaluated or defined (not even a condition that would be an error) -/
theorem unselected_selects_nothing (b : Block) (s : Sel) : selB false s b = .ok s :=
  offB_all b s
theorem unselected_list_selects_nothing (bs : List Block) (s : Sel) : selL false s bs = .ok s :=
  offL_all bs s

/-- a line contributes iff it is reached while every enclosing block is on its selected branch -/
theorem line_selected_iff (on : Bool) (s : Sel) (id : Nat) :
    selB on s (.item (.line id)) = .ok (if on then { s with lines := s.lines ++ [id] } else s) := by
  simp only [selB]

/-- a symbol definition takes effect iff selected; a second definition is rejected -/
theorem define_selected (s : Sel) (n : String) (v : SymVal) (h : s.syms.defined n = false) :
    selB true s (.item (.define n v)) = .ok { s with syms := s.syms ++ [(n, v)] } := by
  simp only [selB, if_true, addSym, h, Bool.false_eq_true, if_false, bind, Except.bind]
theorem define_twice_rejected (s : Sel) (n : String) (v : SymVal) (h : s.syms.defined n = true) :
    selB true s (.item (.define n v)) = .error .symbolRedefined := by
  simp only [selB, if_true, addSym, h, bind, Except.bind]

/-- within one chain the selected branch is the first whose condition held when its directive was
    reached, else the #else branch: chain without #elif -/
theorem chain_if_else (s : Sel) (o : Opener) (body els : List Block) (c : Bool)
    (hc : openerHolds s.syms o = .ok c) :
    selB true s (.chain o body [] (some els)) =
      (selL c s body).bind fun s1 => selL (!c) s1 els := by
  rw [selB_chain, if_pos rfl, hc]; rfl

/-- #ifdef / #ifndef test only whether the symbol is defined at that point -/
theorem ifdef_only_definedness (t : SymTab) (n : String) :
    openerHolds t (.ifdef n) = .ok (t.defined n) ∧ openerHolds t (.ifndef n) = .ok (!t.defined n) :=
  ⟨rfl, rfl⟩

/-- conditions compare integers when both sides are numeric -/
theorem cond_numeric (t : SymTab) (a b : Int) (op : CmpOp) :
    condHolds t { lhs := .num a, op := op, rhs := .num b } = .ok (cmpInt op a b) := by
  simp only [condHolds, substE, bind, Except.bind, hasLabel, Bool.or_self, Bool.false_eq_true,
    if_false, valueE, evalE, EvalLemmas.truncQ_intCast]

/-- a bare expression means "not equal to 0" -/
theorem cond_bare (t : SymTab) (a : Int) :
    condHolds t { lhs := .num a, op := .ne, rhs := .num 0 } = .ok (decide (a ≠ 0)) := by
  rw [cond_numeric]
  simp only [cmpInt, bne, decide_not]
  cases h : a == 0 <;> simp_all

/-- an #else, #elif or #endif without a matching opener is rejected -/
theorem stray_rejected (t : SymTab) (c : CondExp) :
    condStep t [] .endif = .error .condMismatch ∧ condStep t [] .elsec = .error .condMismatch ∧
    condStep t [] (.elifc c) = .error .condMismatch :=
  ⟨rfl, rfl, rfl⟩

/-- an #else or #elif after the #else of the same chain is rejected -/
theorem after_else_rejected (t : SymTab) (c : CondExp) (f : Frame) (rest : CondStack) (h : f.kind = .elsek) :
    condStep t (f :: rest) .elsec = .error .condMismatch ∧
    condStep t (f :: rest) (.elifc c) = .error .condMismatch :=
  ⟨if_pos h, if_pos h⟩

/-- a stream with a stray closing directive at top level is rejected as a whole -/
theorem stray_stream_rejected (bs : List Block) (rest : List Dir) (s : Sel) (d : CondDir)
    (hd : d = .endif ∨ d = .elsec ∨ ∃ c, d = .elifc c) :
    (∃ e, runDirs (flattenL bs ++ .cond d :: rest) [] s = .error e) := by
  rw [runL_k bs]
  show ∃ e, (selL true s bs >>= fun s' => runDirs (.cond d :: rest) [] s') = .error e
  cases selL true s bs with
  | error e => exact ⟨e, rfl⟩
  | ok s' =>
    refine ⟨.condMismatch, ?_⟩
    rcases hd with rfl | rfl | ⟨c, rfl⟩ <;> rfl

/-- non-vacuity: the include-guard idiom keeps its body, and a chain nested in an unselected branch
    selects nothing -/
example :
    (selL true { lines := [], syms := [] }
      [.chain (.ifndef "FOO") [.item (.define "FOO" (.num 1)), .item (.line 1)] [] none, .item (.line 2),
       .chain (.ifc { lhs := .num 0, op := .ne, rhs := .num 0 })
         [.chain (.ifc { lhs := .num 1, op := .ne, rhs := .num 0 }) [.item (.line 3)] [] none, .item (.line 4)] [] none,
       .item (.line 5)]).map (·.lines) = .ok [1, 2, 5] := by decide +kernel

end BV.C08
