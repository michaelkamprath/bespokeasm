/-
  Property C18 — output is invariant under meaning-preserving changes of surface syntax.
  Statements about the MODEL scanner (`Model/Scan.lean`) and, in the second half, about the parser that
  feeds the layout model (`Model/Parse.lean`).  Partial: Python's regular expressions on the real patterns
  are modelled, not verified; the scanner is tied to the code by the differential runs of the check.
-/
import BespokeVerif.Model.Scan
import BespokeVerif.Lemmas.Scan
import BespokeVerif.Lemmas.Parse
import BespokeVerif.Lemmas.ParseRoundTrip
namespace BV.C18
open BV

/-- a word token: non-empty, made of token characters -/
def WordTok (t : String) : Prop := t.toList ≠ [] ∧ ∀ c ∈ t.toList, isTokChar c = true ∧ isPunct c = false ∧ c ≠ ';' ∧ isSpaceChar c = false
/-- a punctuation token: exactly one punctuation character -/
def PunctTok (t : String) : Prop := ∃ c, t = String.ofList [c] ∧ isPunct c = true
/-- a quoted literal: opening quote, a body without that quote and without backslashes (whatever
    else it contains: `;`, `,`, `:`, blanks, mnemonics), closing quote -/
def QuotedTok (t : String) : Prop :=
  ∃ q body, isQuote q = true ∧ (∀ c ∈ body, c ≠ q ∧ c ≠ '\\') ∧ t = String.ofList (q :: body ++ [q])
def ValidTok (t : String) : Prop := WordTok t ∨ PunctTok t ∨ QuotedTok t

/-- gaps: whitespace only, and non-empty between two adjacent word tokens -/
def GapsOk : List String → List (List Char) → Prop
  | [], _ => True
  | [_], g => ∀ x ∈ g, ∀ c ∈ x, isSpaceChar c = true
  | t :: t' :: ts, g :: gs => (∀ c ∈ g, isSpaceChar c = true) ∧ ((WordTok t ∧ WordTok t') → g ≠ []) ∧ GapsOk (t' :: ts) gs
  | _ :: _ :: _, [] => True

/-- blank lines carry no meaning -/
theorem tokenize_blank (l : List Char) (h : ∀ c ∈ l, isSpaceChar c = true) : tokenize l = [] := by
  have := tokenizeAux_spaces [] [] h
  rw [List.append_nil] at this
  rw [tokenize, this]; rfl

/-- comments carry no meaning: everything from the first `;` on is ignored -/
theorem tokenize_comment (s c : List Char) (h : ∀ x ∈ s, x ≠ ';' ∧ isQuote x = false) :
    tokenize (s ++ ';' :: c) = tokenize s :=
  tokenizeAux_comment c [] [] h

/-- … but a `;` (or `,`, `:`, a blank, a mnemonic) inside a quoted literal is part of the literal:
    the literal is one token and scanning continues behind its closing quote -/
theorem tokenize_quoted (q : Char) (body rest : List Char) (hq : isQuote q = true)
    (hb : ∀ c ∈ body, c ≠ q ∧ c ≠ '\\') :
    tokenize (q :: body ++ q :: rest) = String.ofList (q :: body ++ [q]) :: tokenize rest := by
  rw [tokenize, tokenizeAux_quoted rest [] hq hb, tokenizeAux_acc]
  rfl

/-- accumulator form of `tokenize_join` -/
theorem tokenizeAux_join {ts : List String} {gaps : List (List Char)} (acc : List String)
    (hv : ∀ t ∈ ts, ValidTok t) (hlen : gaps.length = ts.length) (hg : GapsOk ts gaps) :
    tokenizeAux none (joinToks ts gaps) [] acc = acc.reverse ++ ts := by
  induction ts generalizing gaps acc with
  | nil => simp [joinToks, tokenizeAux]
  | cons t ts ih =>
    obtain _ | ⟨g, gs⟩ := gaps
    · simp at hlen
    have hlen' : gs.length = ts.length := by simpa using hlen
    have hv' : ∀ t ∈ ts, ValidTok t := fun y hy => hv y (List.mem_cons_of_mem _ hy)
    -- the gap behind `t` is blank, and behind a word the text goes on with a delimiter
    obtain ⟨hsp, hD, hrest⟩ :
        (∀ c ∈ g, isSpaceChar c = true) ∧ (WordTok t → Delim (g ++ joinToks ts gs)) ∧ GapsOk ts gs := by
      cases ts with
      | nil =>
        have hsp : ∀ c ∈ g, isSpaceChar c = true := hg g (List.mem_cons_self ..)
        exact ⟨hsp, fun _ => .gap hsp fun _ _ hc => (nomatch hc), trivial⟩
      | cons t' ts' =>
        obtain _ | ⟨g', gs'⟩ := gs
        · simp at hlen'
        obtain ⟨hsp, hne, hrest⟩ := hg
        refine ⟨hsp, fun hw => .gap hsp fun hg0 => ?_, hrest⟩
        -- an empty gap: the next token is no word, so it begins with a punctuation character or a quote
        rcases hv' t' (List.mem_cons_self ..) with hw' | ⟨d, rfl, hp⟩ | ⟨q, body, hq, _, rfl⟩
        · exact absurd hg0 (hne ⟨hw, hw'⟩)
        · rw [joinToks, String.toList_ofList]
          exact .cons _ (.inr (.inl hp))
        · rw [joinToks, String.toList_ofList]
          exact .cons _ (.inr (.inr hq))
    have ih : tokenizeAux none (joinToks ts gs) [] (t :: acc) = acc.reverse ++ t :: ts := by
      rw [ih (t :: acc) hv' hlen' hrest, List.reverse_cons, List.append_assoc, List.singleton_append]
    rw [joinToks, List.append_assoc]
    rcases hv t (List.mem_cons_self ..) with hw | ⟨d, rfl, hp⟩ | ⟨q, body, hq, hb, rfl⟩
    · rw [tokenizeAux_word t.toList _ [] acc (fun c hc =>
          ⟨not_quote (p := isTokChar) (by decide) (by decide) (hw.2 c hc).1, (hw.2 c hc).2⟩),
        List.append_nil, tokenizeAux_flush acc (hD hw) (by simpa using hw.1),
        List.reverse_reverse, String.ofList_toList, tokenizeAux_spaces _ _ hsp, ih]
    · rw [String.toList_ofList, List.cons_append, List.nil_append, tokenizeAux_punct acc hp,
        tokenizeAux_spaces _ _ hsp, ih]
    · rw [String.toList_ofList, List.append_assoc, List.singleton_append,
        tokenizeAux_quoted _ acc hq hb, tokenizeAux_spaces _ _ hsp, ih]

/-- amount and kind of horizontal whitespace between tokens carry no meaning: however the tokens
    of a line are spaced (blanks or tabs, any amount, none at all next to punctuation), the scanner
    recovers exactly the tokens -/
theorem tokenize_join (ts : List String) (gaps : List (List Char)) (hv : ∀ t ∈ ts, ValidTok t)
    (hlen : gaps.length = ts.length) (hg : GapsOk ts gaps) :
    tokenize (joinToks ts gaps) = ts := by
  simpa [tokenize] using tokenizeAux_join [] hv hlen hg

/-- leading whitespace (indentation) carries no meaning -/
theorem tokenize_indent (ws l : List Char) (h : ∀ c ∈ ws, isSpaceChar c = true) : tokenize (ws ++ l) = tokenize l :=
  tokenizeAux_spaces l [] h

/-- letter case of mnemonics and register names carries no meaning -/
theorem canonTok_case (v : Vocab) (t t' : String) (h : t'.toLower = t.toLower)
    (hm : v.isMnemonic t = true ∨ v.isRegister t = true) : canonTok v t' = canonTok v t := by
  have h1 : v.isMnemonic t' = v.isMnemonic t := by simp only [Vocab.isMnemonic, h]
  have h2 : v.isRegister t' = v.isRegister t := by simp only [Vocab.isRegister, h]
  have h3 : (v.isMnemonic t || v.isRegister t) = true := by
    rcases hm with hm | hm <;> simp [hm]
  simp only [canonTok, h1, h2, h3, if_true, h]

/-- other identifiers (labels, numbers) are kept as written -/
theorem canonTok_other (v : Vocab) (t : String) (hm : v.isMnemonic t = false) (hr : v.isRegister t = false) :
    canonTok v t = t := by
  simp [canonTok, hm, hr]

/-- a label on its own line or in front of the statement it labels: the statements are the same -/
theorem label_own_line (v : Vocab) (name : String) (rest : List String) :
    splitStmts v (name :: ":" :: rest) [] [] = [name, ":"] :: splitStmts v rest [] [] := by
  rw [splitStmts.eq_2, List.isEmpty_nil, if_pos rfl, splitStmts_acc]; rfl

/-- why `compound_line_partial` needs `m ≠ ":"`: a vocabulary is arbitrary, so `":"` may be a
    "mnemonic"; then the last token of `a` followed by `m` is read as a label -/
example : let v : Vocab := ⟨[":", "ldi"], []⟩
    v.isMnemonic ":" = true ∧
    splitStmts v (["x"] ++ ":" :: ["y"]) [] [] = [["x", ":"], ["y"]] ∧
    splitStmts v ["x"] [] [] ++ splitStmts v (":" :: ["y"]) [] [] = [["x"], [":", "y"]] := by
  decide +kernel

/-- consecutive instructions on one line or on separate lines: a line whose second part starts
    with a mnemonic is split exactly there.
    (`hmc : m ≠ ":"` is needed: without it the statement is false, see the example above.) -/
theorem compound_line_partial (v : Vocab) (a b : List String) (m : String) (hm : v.isMnemonic m = true)
    (hmc : m ≠ ":")
    (ha : a ≠ []) (hlast : ∀ x, a.getLast? = some x → x ≠ "[" ∧ x ≠ "+" ∧ x ≠ "," ∧ x ≠ ":")
    (hnl : ∀ x ∈ a, x ≠ ":") (hb : b.head? ≠ some ":") :
    splitStmts v (a ++ m :: b) [] [] = splitStmts v a [] [] ++ splitStmts v (m :: b) [] [] :=
  splitStmts_compound hm hmc ha
    (fun x hx => ⟨(hlast x hx).1, (hlast x hx).2.1, (hlast x hx).2.2.1⟩) hnl hb

/-- blank and comment-only lines contribute no statement -/
theorem blank_line_ignored (v : Vocab) (ls₁ ls₂ : List (List Char)) (l : List Char) (h : tokenize l = []) :
    scanProgram v (ls₁ ++ l :: ls₂) = scanProgram v (ls₁ ++ ls₂) := by
  simp only [scanProgram, List.flatMap_append, List.flatMap_cons, h, splitStmts.eq_1,
    List.isEmpty_nil, if_true, List.reverse_nil, List.nil_append]

/-- the statement list of a program is the concatenation of the statement lists of its lines -/
theorem scanProgram_append (v : Vocab) (ls₁ ls₂ : List (List Char)) :
    scanProgram v (ls₁ ++ ls₂) = scanProgram v ls₁ ++ scanProgram v ls₂ := by
  simp only [scanProgram, List.flatMap_append]

/-- non-vacuity -/
example : tokenize "  LDI\tA ,5 ; x".toList = ["LDI", "A", ",", "5"] := by decide +kernel
example : tokenize "x: .byte ';', 1 ; c".toList = ["x", ":", ".byte", "';'", ",", "1"] := by decide +kernel
example : tokenize ".cstr \"a;b, c: nop\" nop".toList = [".cstr", "\"a;b, c: nop\"", "nop"] := by decide +kernel
example : tokenize "st[kone+1]".toList = ["st", "[", "kone", "+", "1", "]"] := by decide +kernel

/-- comments carry no meaning (parser): the text handed to the statement parser is what stands in
    front of the first `;` outside a literal -/
theorem text_comment_ignored (s c : List Char) (h : ∀ x ∈ s, x ≠ ';' ∧ isQuote x = false) :
    stripComment none (s ++ ';' :: c) = s := by
  rw [stripComment_plain_append _ h]; simp [stripComment]

/-- … and a `;` inside a quoted literal does not start one -/
theorem text_semicolon_in_literal (s body rest : List Char) (q : Char) (hs : ∀ x ∈ s, x ≠ ';' ∧ isQuote x = false)
    (hq : isQuote q = true) (hb : ∀ c ∈ body, c ≠ q ∧ c ≠ '\\') :
    stripComment none (s ++ q :: body ++ q :: rest) = s ++ q :: body ++ q :: stripComment none rest := by
  rw [List.append_assoc, stripComment_plain_append _ hs]
  simp only [List.cons_append, stripComment, hq, if_true, beq_false_of_class hq (d := ';') rfl, Bool.false_eq_true, if_false,
    stripComment_inside (isQuote_ne_backslash hq) hb, List.append_assoc]

/-- removing the comment twice changes nothing more -/
theorem text_comment_idempotent (l : List Char) : stripComment none (stripComment none l) = stripComment none l :=
  stripComment_idem none l

/-- white space around the statements of a line carries no meaning (parser) -/
theorem text_surrounding_blanks (cfg : PCfg) (f : Nat) (t : List Char) :
    parseStmts cfg f (ptrim t) = parseStmts cfg f t := parseStmts_congr cfg f (ptrim_idem t)

/-- a label in front of a statement (parser): the line `name: rest` is the label followed by the
    statements of `rest` - what the two lines `name:` and `rest` give -/
theorem text_label_in_front (cfg : PCfg) (f : Nat) (w rest : List Char) (hw : NameText w) :
    parseStmts cfg (f + 1) (w ++ ':' :: rest) =
      (do let more ← parseStmts cfg f rest; .ok (.label (String.ofList w) :: more)) := by
  have ht : ptrim (w ++ ':' :: rest) = w ++ ':' :: ptrimR rest :=
    (hw.solid.ptrim_append _).trans (congrArg (w ++ ·) (ptrimR_append_cons [] rest ':' (by decide)))
  rw [parseStmts_succ, ht, stmtStep_name cfg hw (by intro c hc; cases hc; decide), List.tail_cons, parseStmts_ptrimR]
  rfl

/-- … and the label alone on its line is that label -/
theorem text_label_own_line (cfg : PCfg) (f : Nat) (w : List Char) (hw : NameText w) :
    parseStmts cfg (f + 2) (w ++ [':']) = .ok [.label (String.ofList w)] := by
  rw [text_label_in_front cfg (f + 1) w [] hw, parseStmts_nil]
  rfl

/-- a trailing comment carries no meaning for the statements of a line (parser) -/
theorem text_line_comment_ignored (cfg : PCfg) (s c : List Char) (h : ∀ x ∈ s, x ≠ ';' ∧ isQuote x = false) :
    parseLine cfg (s ++ ';' :: c) = parseLine cfg s := by
  unfold parseLine
  rw [stripComment_plain_append _ h, stripComment_plain h]
  simp [stripComment]

/-- a blank line has no statements (parser) -/
theorem text_blank_line (cfg : PCfg) (l : List Char) (h : ∀ c ∈ l, isSpaceChar c = true) : parseLine cfg l = .ok [] := by
  have hs : stripComment none l = l := stripComment_plain fun x hx =>
    ⟨ne_of_apply_ne isSpaceChar (by rw [h x hx]; decide), isSpaceChar_not_quote (h x hx)⟩
  have ht : ptrim l = [] := by
    rw [ptrim, show ptrimL l = [] from dropWhile_all h]; rfl
  rw [parseLine, hs, ht]

/-- consecutive instructions on one line (parser): `MN ops MN2 …` is the instruction `MN ops` - its
    operand text ends where the next mnemonic starts a word - followed by the statements of `MN2 …`,
    i.e. what the two lines `MN ops` and `MN2 …` give.  `hno` says that the operand text itself holds
    no mnemonic; the mnemonic is recorded in lower case whatever its spelling. -/
theorem text_consecutive_instructions (cfg : PCfg) (f : Nat) (w ops w2 r2 : List Char)
    (hw : NameText w) (hwdot : w.head? ≠ some '.') (hmn : cfg.mnemonics.contains (lowerS w) = true)
    (hops : ops ≠ [] ∧ ∀ c ∈ ops, isQuote c = false)
    (hop0 : ∀ c, ops.head? = some c → isSpaceChar c = false ∧ c ≠ '=' ∧ c ≠ ':')
    (hequ : lowerS (takeName ops).1 ≠ "equ")
    (hno : cutAtMnemonic cfg none false (' ' :: ops ++ [' ']) = (' ' :: ops ++ [' '], []))
    (hw2 : NameText w2) (hr2 : ∀ c, r2.head? = some c → isNameChar c = false)
    (hm2 : cfg.mnemonics.contains (lowerS w2) = true) (hrt : ptrimR r2 = r2) :
    parseStmts cfg (f + 1) (w ++ ' ' :: ops ++ ' ' :: w2 ++ r2) =
      (do let fs ← (match parseOperands cfg.regs (' ' :: ops ++ [' ']) with
                    | .ok fs => pure fs
                    | .error _ => .error .noVariant)
          let more ← parseStmts cfg f (w2 ++ r2)
          .ok (.isa (lowerS w) fs :: more)) := by
  obtain ⟨o0, ops', rfl⟩ := List.exists_cons_of_ne_nil hops.1
  obtain ⟨ho0s, ho0e, _⟩ := hop0 o0 rfl
  -- the line is the mnemonic `w` in front of the rest; it is trimmed
  have hline : w ++ ' ' :: (o0 :: ops') ++ ' ' :: w2 ++ r2 = w ++ ' ' :: ((o0 :: ops') ++ ' ' :: (w2 ++ r2)) := by simp
  have ht : ptrim (w ++ ' ' :: ((o0 :: ops') ++ ' ' :: (w2 ++ r2))) = w ++ ' ' :: ((o0 :: ops') ++ ' ' :: (w2 ++ r2)) := by
    have h := hw2.solid.ptrimR_append (' ' :: (o0 :: ops') ++ [' ']) r2
    rw [hrt] at h
    rw [hw.solid.ptrim_append]
    simpa using h
  have hr1 : ptrimL (' ' :: ((o0 :: ops') ++ ' ' :: (w2 ++ r2))) = (o0 :: ops') ++ ' ' :: (w2 ++ r2) :=
    (List.dropWhile_cons_of_pos (by decide)).trans (ptrimL_cons_nonspace ho0s)
  -- the name at the start of the operand text lies inside `ops`
  have hname : (takeName ((o0 :: ops') ++ ' ' :: (w2 ++ r2))).1 = (takeName (o0 :: ops')).1 :=
    takeWhile_append_cons_stop isNameChar _ _ ' ' (by decide)
  -- the operand text ends in front of `w2`
  have hcut : cutAtMnemonic cfg none false (' ' :: ((o0 :: ops') ++ ' ' :: (w2 ++ r2))) = (' ' :: (o0 :: ops') ++ [' '], w2 ++ r2) := by
    have hq : ∀ c ∈ ' ' :: o0 :: ops', isQuote c = false := List.forall_mem_cons.mpr ⟨rfl, hops.2⟩
    have := cutAtMnemonic_pre (w2 ++ r2) hq hno
    rw [cutAtMnemonic_at_mnemonic hw2 hr2 hm2] at this
    simpa using this
  rw [hline, parseStmts_isa cfg f ht hw hwdot hmn (by intro c hc; cases hc; decide) (by rw [hr1]; simpa using ho0e)
    (by rw [hr1, hname]; exact hequ), hcut]
  rfl

/-- render / parse round trip, origin: `.org` followed by the decimal spelling of ANY address is read
    back as the origin statement with exactly that address (no zone) -/
theorem text_roundtrip_org_decimal (cfg : PCfg) (f : Nat) (n : Nat) :
    parseStmts cfg (f + 2) (".org ".toList ++ Nat.toDigits 10 n) = .ok [.org (.num n) none] :=
  have ha := decimal_arg n rfl
  parseStmts_word_line cfg f (name := ".org") (by decide +kernel) ha.solid fun k =>
    (directive_arg cfg k ha).2.2.2

/-- render / parse round trip, data: `.byte` followed by the decimal spelling of ANY value -/
theorem text_roundtrip_byte_decimal (cfg : PCfg) (f : Nat) (n : Nat) :
    parseStmts cfg (f + 2) (".byte ".toList ++ Nat.toDigits 10 n) = .ok [.data 1 [.num n]] :=
  have ha := decimal_arg n rfl
  parseStmts_word_line cfg f (name := ".byte") (by decide +kernel) ha.solid fun k =>
    (directive_data cfg k ha).1

/-- render / parse round trip, fill: `.fill N,V` with the decimal spelling of ANY count and value -/
theorem text_roundtrip_fill_decimal (cfg : PCfg) (f : Nat) (n v : Nat) :
    parseStmts cfg (f + 2) (".fill ".toList ++ Nat.toDigits 10 n ++ ',' :: Nat.toDigits 10 v) =
      .ok [.fill (.num n) (.num v)] := by
  have ha := decimal_arg n rfl
  have hb := decimal_arg v rfl
  rw [List.append_assoc]
  exact parseStmts_word_line cfg f (name := ".fill") (by decide +kernel)
    (ha.solid.append_comma hb.solid) fun k => directive_fill cfg k ha hb

/-- render / parse round trip, `.zero N`: the fill statement with value 0 -/
theorem text_roundtrip_zero_decimal (cfg : PCfg) (f : Nat) (n : Nat) :
    parseStmts cfg (f + 2) (".zero ".toList ++ Nat.toDigits 10 n) = .ok [.fill (.num n) (.num 0)] :=
  have ha := decimal_arg n rfl
  parseStmts_word_line cfg f (name := ".zero") (by decide +kernel) ha.solid fun k =>
    (directive_arg cfg k ha).1

/-- render / parse round trip, constant: `name = N` for every name that does not start with a dot -/
theorem text_roundtrip_constant_decimal (cfg : PCfg) (f : Nat) (w : List Char) (hw : NameText w)
    (hdot : w.head? ≠ some '.') (n : Nat) :
    parseStmts cfg (f + 2) (w ++ " = ".toList ++ Nat.toDigits 10 n) = .ok [.const (String.ofList w) (.num n)] := by
  rw [parseStmts_const cfg (f + 1) hw hdot (decimal_arg n rfl).solid, (decimal_arg n rfl).reads]
  rfl

/-- round trip for a fragment of the statement language (labels, constants `name = N`, `.org N`,
    `.memzone Z`, `.byte / .2byte / .4byte / .8byte N`, `.fill N,V`, `.zerountil N`, `.align N` with decimal
    numbers): whatever the renderer `renderSimple` writes for a statement, the front end reads back as
    exactly that statement - for every name, zone and number -/
theorem text_roundtrip_simple_statements (cfg : PCfg) (f : Nat) (s : Stmt) (txt : List Char)
    (h : renderSimple s = some txt) : parseStmts cfg (f + 2) txt = .ok [s] := by
  unfold renderSimple at h
  split at h
  case h_12 => cases h
  all_goals obtain ⟨hc, rfl⟩ := Option.ite_some_none_eq_some.mp h
  · -- label
    rw [text_label_own_line cfg f _ ⟨hc.1, by simpa [List.all_eq_true] using hc.2⟩, String.ofList_toList]
  · -- .org
    rw [text_roundtrip_org_decimal, Int.toNat_of_nonneg hc]
  · -- .memzone
    rename_i z
    have hz : z.toList ≠ [] ∧ ∀ c ∈ z.toList, isWordChar c = true := ⟨hc.1, by simpa [List.all_eq_true] using hc.2⟩
    exact parseStmts_word_line cfg f (name := ".memzone") (by decide +kernel) (solid_of_word hz) fun k => by
      simpa using directive_memzone cfg k hz (rest := []) (by simp)
  · -- .byte
    rw [text_roundtrip_byte_decimal, Int.toNat_of_nonneg hc]
  · -- .2byte
    have ha := decimal_arg _ (Int.toNat_of_nonneg hc).symm
    exact parseStmts_word_line cfg f (name := ".2byte") (by decide +kernel) ha.solid fun k =>
      (directive_data cfg k ha).2.1
  · -- .4byte
    have ha := decimal_arg _ (Int.toNat_of_nonneg hc).symm
    exact parseStmts_word_line cfg f (name := ".4byte") (by decide +kernel) ha.solid fun k =>
      (directive_data cfg k ha).2.2.1
  · -- .8byte
    have ha := decimal_arg _ (Int.toNat_of_nonneg hc).symm
    exact parseStmts_word_line cfg f (name := ".8byte") (by decide +kernel) ha.solid fun k =>
      (directive_data cfg k ha).2.2.2
  · -- .fill
    rw [text_roundtrip_fill_decimal, Int.toNat_of_nonneg hc.1, Int.toNat_of_nonneg hc.2]
  · -- .zerountil
    have ha := decimal_arg _ (Int.toNat_of_nonneg hc).symm
    exact parseStmts_word_line cfg f (name := ".zerountil") (by decide +kernel) ha.solid fun k =>
      (directive_arg cfg k ha).2.1
  · -- .align
    have ha := decimal_arg _ (Int.toNat_of_nonneg hc).symm
    exact parseStmts_word_line cfg f (name := ".align") (by decide +kernel) ha.solid fun k =>
      (directive_arg cfg k ha).2.2.1
  · -- constant
    rw [text_roundtrip_constant_decimal cfg f _ ⟨hc.1, by simpa [List.all_eq_true] using hc.2.1⟩ hc.2.2.1,
      Int.toNat_of_nonneg hc.2.2.2, String.ofList_toList]

/-- … and with any number of labels written in front of it on the same line -/
theorem text_roundtrip_labelled_statement (cfg : PCfg) (f : Nat) (ws : List String) (s : Stmt) (txt : List Char)
    (hws : ∀ w ∈ ws, NameText w.toList) (h : renderSimple s = some txt) :
    parseStmts cfg (f + 2 + ws.length) (renderLabels ws ++ txt) = .ok (ws.map .label ++ [s]) := by
  induction ws with
  | nil => simpa [renderLabels] using text_roundtrip_simple_statements cfg f s txt h
  | cons w ws ih =>
    have hw := hws w (List.mem_cons_self ..)
    have ih' := ih (fun x hx => hws x (List.mem_cons_of_mem _ hx))
    have e : renderLabels (w :: ws) ++ txt = w.toList ++ ':' :: (' ' :: (renderLabels ws ++ txt)) := by
      simp [renderLabels]
    rw [e, List.length_cons, ← Nat.add_assoc, text_label_in_front cfg _ w.toList _ hw,
      parseStmts_congr cfg _ (t' := renderLabels ws ++ txt) (show ptrim (' ' :: _) = _ from rfl), ih']
    simp [bind, Except.bind]

example : renderSimple (.fill (.num 16) (.num 255)) = some ".fill 16,255".toList := by decide +kernel
example : renderSimple (.const "kone" (.num 1)) = some "kone = 1".toList := by decide +kernel
example : renderLabels ["a", "_b"] ++ ".byte 7".toList = "a: _b: .byte 7".toList := by decide +kernel
example : NameText "kone".toList ∧ "kone".toList.head? ≠ some '.' := by
  unfold NameText; decide +kernel
example : renderSimple (.org (.num 4096) none) = some ".org 4096".toList := by decide +kernel
example : renderSimple (.data 1 [.num 255]) = some ".byte 255".toList := by decide +kernel

-- the hypotheses are satisfiable: `LDI a,5 Nop` under the mnemonics `ldi`, `nop`
def exCfg : PCfg := { regs := ["a"], mnemonics := ["ldi", "nop"] }
example : cutAtMnemonic exCfg none false " a,5 ".toList = (" a,5 ".toList, []) := by
  decide +kernel
example : exCfg.mnemonics.contains (lowerS "LDI".toList) = true ∧ exCfg.mnemonics.contains (lowerS "Nop".toList) = true ∧
    lowerS (takeName "a,5".toList).1 ≠ "equ" ∧ NameText "LDI".toList ∧ NameText "Nop".toList := by
  unfold NameText; decide +kernel

end BV.C18
