/-
  Property C01 — instruction encoding is exactly the bit layout the ISA prescribes.
-/
import BespokeVerif.Model.Bits
import BespokeVerif.Lemmas.Bits
namespace BV.C01
open BV

/-- Refinement: the cursor-based packer emits exactly the bytes of the specified bit string. -/
theorem getBytes_eq_spec (fs : List Field) (hne : fs ≠ [])
    (h : ∀ f ∈ fs, 1 ≤ f.size ∧ Fits f.value f.size) :
    getBytes fs = .ok (some (specBytes fs)) :=
  getBytes_eq_spec' hne h

/-- The packer fails only by rejecting a value that does not fit its field, and does so whenever
    one exists (shared with C12). -/
theorem getBytes_error_iff (fs : List Field) :
    (∃ e, getBytes fs = .error e) ↔ ∃ f ∈ fs, ¬ Fits f.value f.size := by
  constructor
  · rintro ⟨e, he⟩; exact (getBytes_eq_error_iff.mp he).2
  · intro h; exact ⟨_, getBytes_eq_error_iff.mpr ⟨rfl, h⟩⟩

theorem getBytes_error_kind (fs : List Field) (e : Err) (h : getBytes fs = .error e) :
    e = .fieldOverflow :=
  (getBytes_eq_error_iff.mp h).1

/-- Reserved size = emitted size = ⌈bits/8⌉. -/
theorem byteSizeOf_eq_spec_length (fs : List Field) :
    byteSizeOf fs = (specBytes fs).length := by
  exact (specBytes_length fs).symm

theorem byteSizeOf_eq_ceil (fs : List Field) :
    byteSizeOf fs = ceil8 (layout fs []).length :=
  byteSizeOf_eq_ceil' fs

/-- every field occupies exactly its configured number of bits -/
theorem fieldBits_length (v : Int) (n : Nat) (little : Bool) :
    (fieldBits v n little).length = n :=
  fieldBits_length' v n little

/-- big endian: bit `i` of the field (transmission order) is bit `n-1-i` of the value -/
theorem fieldBits_big (v : Int) (n i : Nat) (hi : i < n) :
    (fieldBits v n false)[i]? = some (bitAt v (n - 1 - i)) :=
  revRange_getElem? (bitAt v) hi

/-- little endian: the bytes go out in ascending significance, each MSB first; the most
    significant byte carries only the remaining `n - 8(len-1)` bits. -/
theorem fieldBits_little_low (v : Int) (n j b : Nat) (hj : j + 1 < ceil8 n) (hb : b < 8) :
    (fieldBits v n true)[8 * j + b]? = some (bitAt v (8 * j + (7 - b))) := by
  have hj' : j < ceil8 n - 1 := Nat.lt_sub_of_add_lt hj
  simp only [fieldBits, if_true]
  generalize ceil8 n - 1 = l at hj' ⊢
  have hf : ∀ j, ((List.range 8).reverse.map fun b => bitAt v (8 * j + b)).length = 8 := by simp
  rw [List.getElem?_append_left (by rw [flatMap_range_length8 hf]; omega),
    flatMap_range_getElem? hf hj' hb, revRange_getElem? _ hb]

theorem fieldBits_little_top (v : Int) (n b : Nat) (hn : 1 ≤ n) (hb : b < n - 8 * (ceil8 n - 1)) :
    (fieldBits v n true)[8 * (ceil8 n - 1) + b]? = some (bitAt v (n - 1 - b)) := by
  simp only [fieldBits, if_true]
  generalize ceil8 n - 1 = l at hb ⊢
  obtain ⟨m, rfl⟩ : ∃ m, n = 8 * l + m := ⟨n - 8 * l, by omega⟩
  rw [Nat.add_sub_cancel_left] at hb ⊢
  have hf : ∀ j, ((List.range 8).reverse.map fun b => bitAt v (8 * j + b)).length = 8 := by simp
  rw [List.getElem?_append_right (by rw [flatMap_range_length8 hf]; exact Nat.le_add_right _ _),
    flatMap_range_length8 hf, Nat.add_sub_cancel_left, revRange_getElem? _ hb,
    Nat.add_sub_assoc (Nat.zero_lt_of_lt hb), Nat.add_sub_assoc (Nat.le_sub_one_of_lt hb)]

/-- Layout is compositional: a further field is appended after the existing bit string, after
    padding to a byte boundary iff it is marked byte-aligned. -/
theorem layout_snoc (fs : List Field) (f : Field) :
    layout (fs ++ [f]) [] =
      (if f.align then padTo8 (layout fs []) else layout fs []) ++ fieldBits f.value f.size f.little := by
  rw [layout_append]; rfl

theorem padTo8_length_dvd (bits : List Bool) : 8 ∣ (padTo8 bits).length := by
  rw [padTo8_length]; omega

theorem padTo8_prefix (bits : List Bool) : bits <+: padTo8 bits :=
  List.prefix_append _ _

theorem padTo8_minimal (bits : List Bool) : (padTo8 bits).length < bits.length + 8 := by
  rw [padTo8_length]; exact Nat.add_lt_add_left (Nat.mod_lt _ (by decide)) _

/-- Field order: the implementation's list manipulation is the documented order. -/
theorem fieldOrder_eq_specOrder (ops : List OpParts) (opcode : Field) (sfx : Option Field)
    (revArgs revCodes : Bool) :
    fieldOrder ops opcode sfx revArgs revCodes = specOrder ops opcode sfx revArgs revCodes :=
  fieldOrder_eq_specOrder' ops opcode sfx revArgs revCodes

/-- no field is lost or duplicated, whatever the reverse options -/
theorem fieldOrder_perm (ops : List OpParts) (opcode : Field) (sfx : Option Field)
    (revArgs revCodes : Bool) :
    (fieldOrder ops opcode sfx revArgs revCodes).Perm
      (prefixGroup ops ++ [opcode] ++ suffixGroup ops ++ sfx.toList ++ argGroup ops) := by
  rw [fieldOrder_eq_specOrder]
  unfold specOrder
  have r : ∀ (b : Bool) (l : List Field), (if b then l.reverse else l).Perm l := by
    intro b l; cases b
    · exact List.Perm.refl _
    · exact List.reverse_perm l
  exact ((((r revCodes _).append (List.Perm.refl _)).append (r revCodes _)).append
    (List.Perm.refl _)).append (r revArgs _)

/-- the reverse options reverse exactly the group they name: the argument option only the
    argument group, the bytecode option only the two operand-code groups -/
theorem specOrder_revArgs (ops : List OpParts) (opcode : Field) (sfx : Option Field) (rc : Bool) :
    ∃ head, specOrder ops opcode sfx false rc = head ++ argGroup ops
          ∧ specOrder ops opcode sfx true rc = head ++ (argGroup ops).reverse := by
  refine ⟨(if rc then (prefixGroup ops).reverse else prefixGroup ops) ++ [opcode]
    ++ (if rc then (suffixGroup ops).reverse else suffixGroup ops) ++ sfx.toList, ?_, ?_⟩ <;>
    simp [specOrder]

theorem specOrder_revCodes (ops : List OpParts) (opcode : Field) (sfx : Option Field) (ra : Bool) :
    ∃ tail, specOrder ops opcode sfx ra false = prefixGroup ops ++ [opcode] ++ suffixGroup ops ++ tail
          ∧ specOrder ops opcode sfx ra true =
              (prefixGroup ops).reverse ++ [opcode] ++ (suffixGroup ops).reverse ++ tail := by
  refine ⟨sfx.toList ++ (if ra then (argGroup ops).reverse else argGroup ops), ?_, ?_⟩ <;>
    simp [specOrder]

/-- non-vacuity: a concrete mixed-width, mixed-endian, aligned field list meets the hypotheses -/
example : getBytes [⟨0xA, 4, false, false⟩, ⟨0xFFF, 12, false, true⟩, ⟨-2, 5, true, false⟩, ⟨0x123, 9, false, true⟩]
    = .ok (some [175, 255, 241, 28]) := by decide +kernel

end BV.C01
