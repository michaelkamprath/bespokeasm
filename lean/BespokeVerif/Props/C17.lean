/-
  Property C17 — including a file is equivalent to assembling its text in place (under a fresh
  file scope).  The reader's invariants come from `Reads` in `BespokeVerif/Lemmas/Include.lean`.
-/
import BespokeVerif.Model.Layout
import BespokeVerif.Model.Include
import BespokeVerif.Lemmas.Include
namespace BV.C17
open BV

/-- a file included more than once is rejected -/
theorem include_twice_rejected (cfg : Cfg) (files : List (List Stmt)) (fuel f : Nat) (st : ReadSt)
    (h : st.used.contains f = true) : readFile cfg files (fuel + 1) f st = .error .includeError := by
  rw [readFile.eq_2, if_pos h]

/-- a missing file is rejected -/
theorem include_missing_rejected (cfg : Cfg) (files : List (List Stmt)) (fuel f : Nat) (st : ReadSt)
    (h : files[f]? = none) : readFile cfg files (fuel + 1) f st = .error .includeError := by
  rw [readFile.eq_2, h]
  split <;> rfl

/-- every line read from a file carries that file's own scope (file scope or one of its local
    regions) — file-scoped and local labels of includer and included file never mix — and no line
    comes from a file that had already been opened -/
theorem included_lines_tagged (cfg : Cfg) (files : List (List Stmt)) (fuel f : Nat) (st st' : ReadSt)
    (lines : List Line) (h : readFile cfg files fuel f st = .ok (lines, st')) :
    ∀ ln ∈ lines, ln.scope.fileId = ln.file ∧ st.used.contains ln.file = false := by
  obtain ⟨hf, hr⟩ := readFile_reads h
  intro ln hln
  refine ⟨(hr.tagged ln hln).1, ?_⟩
  rw [List.contains_eq_mem, decide_eq_false_iff_not]
  rcases (hr.tagged ln hln).2 with h3 | h3
  · exact h3 ▸ hf
  · exact fun hm => h3 (List.mem_append_left _ hm)

/-- the set of opened files only grows, and the file just read is in it -/
theorem used_grows (cfg : Cfg) (files : List (List Stmt)) (fuel f : Nat) (st st' : ReadSt)
    (lines : List Line) (h : readFile cfg files fuel f st = .ok (lines, st')) :
    st'.used.contains f = true ∧ ∀ g, st.used.contains g = true → st'.used.contains g = true := by
  have hsub := (readFile_reads h).2.used_subset
  simp only [List.contains_eq_mem, decide_eq_true_eq]
  exact ⟨hsub (List.mem_append_right _ (List.mem_singleton_self f)), fun g hg => hsub (List.mem_append_left _ hg)⟩

/-- no file is opened twice anywhere in the include tree - not by the file that includes it, not by a file it
    includes itself, not by a sibling (a "diamond"): the record of opened files is one for the whole tree, and an
    accepted read leaves it without a repetition -/
theorem no_file_opened_twice (cfg : Cfg) (files : List (List Stmt)) (fuel f : Nat) (st st' : ReadSt)
    (lines : List Line) (h : readFile cfg files fuel f st = .ok (lines, st')) (hn : st.used.Nodup) :
    st'.used.Nodup := by
  have hP : ∀ {used : List Nat} {g}, g ∉ used → used.Nodup → (used ++ [g]).Nodup := fun hg hu =>
    List.nodup_append.2 ⟨hu, by simp, fun a ha b hb hab =>
      hg (List.mem_singleton.1 hb ▸ hab ▸ ha)⟩
  obtain ⟨hf, hr⟩ := readFile_reads h
  exact hr.used _ hP (hP hf hn)

/-- … in particular for a whole program, which starts with nothing opened -/
theorem program_opens_each_file_once (cfg : Cfg) (files : List (List Stmt)) (fuel : Nat) (st st' : ReadSt)
    (lines : List Line) (h0 : st.used = []) (h : readFile cfg files fuel 0 st = .ok (lines, st')) :
    st'.used.Nodup ∧ st'.used.contains 0 = true :=
  ⟨no_file_opened_twice cfg files fuel 0 st st' lines h (h0 ▸ List.nodup_nil),
    (used_grows cfg files fuel 0 st st' lines h).1⟩

/-- the includer's current local-label region, selected zone, mute depth and open conditional
    chains continue unchanged after a selected `#include` … -/
theorem includer_state_continues {cfg : Cfg} {files : List (List Stmt)} {fuel f g : Nat} {rest : List Stmt}
    {sc : Scope} {zone : String} {mute : Nat} {cs : CondStack} {st : ReadSt} {acc : List Line}
    (hact : cs.active = true) :
    readFile.go cfg files fuel f (.includeFile g :: rest) sc zone mute cs st acc =
      (readFile cfg files fuel g st).bind fun (ls, st') =>
        readFile.go cfg files fuel f rest sc zone mute cs st' (acc ++ ls) := by
  rw [readFile.go.eq_3 _ _ _ _ _ _ _ _ _ _ _ _ (by intro d hd; cases hd), hact]
  rfl

/-- … and an `#include` in an unselected conditional branch has no effect at all -/
theorem include_unselected_skipped (cfg : Cfg) (files : List (List Stmt)) (fuel f g : Nat) (rest : List Stmt)
    (sc : Scope) (zone : String) (mute : Nat) (cs : CondStack) (st : ReadSt) (acc : List Line)
    (hact : cs.active = false) :
    readFile.go cfg files fuel f (.includeFile g :: rest) sc zone mute cs st acc =
      readFile.go cfg files fuel f rest sc zone mute cs st acc :=
  go_cons_off (fun _ hd => nomatch hd) hact

/-- statements that only produce payload: no labels, constants, scope / zone / mute / conditional /
    symbol / zone-declaration / include directives -/
def Payload : Stmt → Bool
  | .data .. | .bytes .. | .str .. | .fill .. | .zerountil .. | .instr .. | .comment | .align .. => true
  | _ => false

/-- what a line contributes to placement and bytes, apart from its label scope and file tag -/
def untag (ln : Line) : Stmt × String × Bool := (ln.stmt, ln.zone, ln.muted)

theorem substStmt_payload {t : SymTab} {s s' : Stmt} (hp : Payload s = true)
    (h : substStmt t s = .ok s') : Payload s' = true := by
  cases s <;> cases hp
  case bytes | str | comment => cases h; rfl
  case data | zerountil | instr =>
    obtain ⟨x, _, hx⟩ := bind_eq_ok h
    cases hx; rfl
  case fill =>
    obtain ⟨x, _, hx⟩ := bind_eq_ok h
    obtain ⟨y, _, hy⟩ := bind_eq_ok hx
    cases hy; rfl
  case align p =>
    cases p with
    | none => cases h; rfl
    | some p =>
      obtain ⟨x, _, hx⟩ := bind_eq_ok h
      cases hx; rfl

/-- a selected payload statement adds its line and changes nothing else -/
theorem go_payload_cons {cfg : Cfg} {files : List (List Stmt)} {fuel f : Nat} {s : Stmt} {rest : List Stmt}
    {sc : Scope} {zone : String} {mute : Nat} {cs : CondStack} {st : ReadSt} {acc : List Line}
    (hp : Payload s = true) (hact : cs.active = true) :
    readFile.go cfg files fuel f (s :: rest) sc zone mute cs st acc =
      match substStmt st.syms s with
      | .error e => .error e
      | .ok s' => readFile.go cfg files fuel f rest sc zone mute cs st (acc ++ [payloadLine f sc zone mute s']) := by
  rw [readFile.go.eq_3 _ _ _ _ _ _ _ _ _ _ _ _ (by rintro d rfl; cases hp), hact]
  cases hs : substStmt st.syms s with
  | error e => rfl
  | ok s' =>
    -- a payload statement stays one under substitution, and those fall through to the reader's last case
    have hp' := substStmt_payload hp hs
    cases s' <;> cases hp' <;> rfl

theorem go_payload {cfg : Cfg} {files : List (List Stmt)} {fuel f : Nat} {body : List Stmt}
    {sc : Scope} {zone : String} {mute : Nat} {cs : CondStack} {st : ReadSt} {acc : List Line}
    (hp : ∀ s ∈ body, Payload s = true) (hact : cs.active = true) :
    readFile.go cfg files fuel f body sc zone mute cs st acc =
      (body.mapM (substStmt st.syms)).map fun ss => (acc ++ ss.map (payloadLine f sc zone mute), st) := by
  induction body generalizing acc with
  | nil => simp [readFile.go.eq_1, Except.map, pure, Except.pure]
  | cons s rest ih =>
    rw [go_payload_cons (hp s (by simp)) hact, List.mapM_cons]
    cases substStmt st.syms s with
    | error e => rfl
    | ok s' =>
      dsimp only
      rw [ih fun x hx => hp x (List.mem_cons_of_mem _ hx)]
      cases rest.mapM (substStmt st.syms) with
      | error e => rfl
      | ok ss => simp [Except.map, bind, Except.bind, pure, Except.pure]

/-- Pasting theorem: while the includer is in GLOBAL, unmuted and on a selected branch, including a
    payload-only file yields exactly the lines of the pasted text (same statements after symbol
    substitution, same zone, same mute state, same order), and leaves labels, zones and symbols of
    the reader state as the pasted text does. -/
theorem payload_paste (cfg : Cfg) (files : List (List Stmt)) (fuel f g : Nat) (body : List Stmt)
    (sc : Scope) (cs : CondStack) (st : ReadSt) (acc : List Line)
    (hg : files[g]? = some body) (hp : ∀ s ∈ body, Payload s = true) (hfresh : st.used.contains g = false)
    (hact : cs.active = true) (ls : List Line) (st' : ReadSt)
    (h : readFile.go cfg files (fuel + 1) f [.includeFile g] sc "GLOBAL" 0 cs st acc = .ok (ls, st')) :
    ∃ ls' st'', readFile.go cfg files (fuel + 1) f body sc "GLOBAL" 0 cs st acc = .ok (ls', st'') ∧
      ls'.map untag = ls.map untag ∧ st''.labels = st'.labels ∧ st''.zones = st'.zones ∧ st''.syms = st'.syms := by
  -- the include: open `g`, read its body under a fresh scope
  rw [includer_state_continues hact, readFile.eq_2, if_neg (by rw [hfresh]; exact Bool.false_ne_true), hg] at h
  dsimp only at h
  rw [go_payload hp rfl] at h
  -- the pasted text
  rw [go_payload hp hact]
  dsimp only at h
  cases hs : body.mapM (substStmt st.syms) with
  | error e => rw [hs] at h; cases h
  | ok ss =>
    rw [hs] at h
    simp only [Except.map, Except.bind, readFile.go.eq_1, List.nil_append] at h
    cases h
    refine ⟨_, _, rfl, ?_, rfl, rfl, rfl⟩
    simp [untag, payloadLine, Function.comp_def]

/-- directory search: a name found in no directory or in more than one is rejected, otherwise the
    single hit is returned — independently of the order of the directories -/
theorem locate_ok_iff (present : String → Bool) (dirs : List String) (d : String) (hn : dirs.Nodup) :
    locate present dirs = .ok d ↔ d ∈ dirs ∧ present d = true ∧ ∀ e ∈ dirs, present e = true → e = d := by
  -- a duplicate-free list is `[d]` iff its members are exactly `d`
  have : dirs.filter present = [d] ↔ ∀ e, e ∈ dirs ∧ present e = true ↔ e = d := by
    rw [← List.perm_singleton,
      List.perm_ext_iff_of_nodup (hn.sublist List.filter_sublist) (List.pairwise_singleton _ d)]
    simp only [List.mem_filter, List.mem_singleton]
  rw [locate_ok_iff_filter, this]
  exact ⟨fun h => ⟨((h d).2 rfl).1, ((h d).2 rfl).2, fun e he hpe => (h e).1 ⟨he, hpe⟩⟩,
    fun ⟨hd, hpd, hall⟩ e => ⟨fun h => hall e h.1 h.2, fun h => h ▸ ⟨hd, hpd⟩⟩⟩

theorem locate_perm (present : String → Bool) (dirs dirs' : List String) (hp : dirs.Perm dirs') (hn : dirs.Nodup) :
    locate present dirs' = locate present dirs :=
  have _ := hn
  locate_perm' present hp

/-- de-duplication keeps exactly one entry per real directory -/
theorem dedupDirs_nodup (real : String → String) (dirs : List String) : (dedupDirs real dirs).Nodup :=
  dedupDirs_nodup' real dirs
theorem dedupDirs_mem (real : String → String) (dirs : List String) (p : String) :
    p ∈ dedupDirs real dirs ↔ ∃ d ∈ dirs, real d = p :=
  dedupDirs_mem' real dirs p

/-- … so the set of search directories does not depend on the order in which they were supplied -/
theorem dedupDirs_perm (real : String → String) (dirs dirs' : List String) (hp : dirs.Perm dirs') :
    (dedupDirs real dirs).Perm (dedupDirs real dirs') :=
  dedupDirs_perm' real hp

end BV.C17
