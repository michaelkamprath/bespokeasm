/-
  Property C19 — malformed ISA definitions and unmet version requirements are rejected.
-/
import BespokeVerif.Model.Config
import BespokeVerif.Lemmas.Config
namespace BV.C19
open BV

/-! ## versions: a total order that compares release numbers as numbers -/

theorem relCmp_refl (a : List Nat) : relCmp a a = .eq := by
  induction a, ([] : List Nat), ([] : List Nat) using tails_induction with
  | nil => rw [relCmp]
  | step a b c ih => rw [relCmp_eq_eq_iff]; exact ⟨rfl, ih⟩
theorem relCmp_swap (a b : List Nat) : relCmp b a = (relCmp a b).swap :=
  relCmp_swap' a b
theorem vcmp_refl (a : Version) : vcmp a a = .eq := by
  simp [vcmp, relCmp_refl, preCmp_refl]
theorem vcmp_swap (a b : Version) : vcmp b a = (vcmp a b).swap :=
  vcmp_swap' a b
/-- transitivity of ≤ -/
theorem vle_trans (a b c : Version) (h1 : vle a b = true) (h2 : vle b c = true) : vle a c = true := by
  simp only [vle, bne_iff_ne, vcmp_ne_gt_iff] at *
  rcases h1 with h1 | ⟨h1, p1⟩
  · rcases h2 with h2 | ⟨h2, p2⟩
    · exact Or.inl (relCmp_lt_trans h1 h2)
    · exact Or.inl (by rw [← relCmp_eq_right a.release h2]; exact h1)
  · rcases h2 with h2 | ⟨h2, p2⟩
    · exact Or.inl (by rw [relCmp_eq_left c.release h1]; exact h2)
    · exact Or.inr ⟨by rw [relCmp_eq_left c.release h1]; exact h2, preCmp_le_trans p1 p2⟩

/-- totality -/
theorem vle_total (a b : Version) : vle a b = true ∨ vle b a = true := by
  have h := vcmp_swap a b
  unfold vle
  cases hc : vcmp a b <;> simp [hc, h]

/-- three-number releases compare lexicographically on NUMBERS (0.10.0 > 0.9.0, 0.4.10 > 0.4.3) -/
theorem relCmp_triple (a b c a' b' c' : Nat) :
    relCmp [a, b, c] [a', b', c'] =
      if a < a' then .lt else if a > a' then .gt else
      if b < b' then .lt else if b > b' then .gt else
      if c < c' then .lt else if c > c' then .gt else .eq := by
  simp only [relCmp]

/-- trailing zeros do not matter (1.2 = 1.2.0) -/
theorem relCmp_pad (a : List Nat) : relCmp a (a ++ [0]) = .eq := by
  induction a with
  | nil => simp [relCmp]
  | cons x xs ih => simp [relCmp, ih]


/-- a pre-release sorts strictly before its release, and a < b < rc -/
theorem prerelease_before_release (r : List Nat) (k n : Nat) :
    vlt { release := r, pre := some (k, n) } { release := r, pre := none } = true := by
  simp [vlt, vcmp, relCmp_refl, preCmp]

/-- the gate: accepted exactly when  minimum supported ≤ required ≤ running -/
theorem gate_spec (running minSupported required : Version) :
    gateOk running minSupported required = true ↔ vle minSupported required = true ∧ vle required running = true := by
  unfold gateOk
  rw [vlt_eq_not_vle, vlt_eq_not_vle, Bool.not_not, Bool.not_not, Bool.and_eq_true]
  exact And.comm

/-- `#require`: honoured exactly when the language name matches and the ISA version satisfies the
    stated comparison -/
theorem require_spec (isaName name : String) (iv v : Version) (op : CmpOp) (hop : op ≠ .ne) :
    requireOk isaName iv name (some (op, v)) = true ↔
      name = isaName ∧ (match op with
        | .ge => vle v iv = true | .le => vle iv v = true | .gt => vlt v iv = true | .lt => vlt iv v = true
        | .eq => vcmp iv v = .eq | .ne => False) := by
  cases op <;> simp_all [requireOk]
theorem require_name_only (isaName name : String) (iv : Version) :
    requireOk isaName iv name none = true ↔ name = isaName := by
  simp [requireOk]

def OperandWF (regs : List String) (inSet : Bool) (o : RawOperand) : Prop :=
  o.kind ∈ knownKinds ∧
  (o.kind ∈ registerKinds → ∃ r, o.register = some r ∧ r ∈ regs) ∧
  (o.kind ∈ argumentKinds → o.hasArgument = true) ∧
  (o.kind = "numeric_bytecode" → ∃ a b, o.min = some a ∧ o.max = some b ∧ a ≤ b) ∧
  (o.kind = "relative_address" → ∀ a b, o.min = some a → o.max = some b → a ≤ b) ∧
  (o.kind = "enumeration" → ∀ k ∈ o.enumKeys, k ∉ regs) ∧
  ¬ (inSet = true ∧ o.kind = "empty")

/-- every check on one operand definition, both directions -/
theorem operandOk_iff (regs : List String) (inSet : Bool) (o : RawOperand) :
    operandOk regs inSet o = true ↔ OperandWF regs inSet o := by
  unfold operandOk OperandWF
  simp only [Bool.and_eq_true, and_assoc]
  refine and_congr ?_ (and_congr ?_ (and_congr ?_ (and_congr ?_ (and_congr ?_ (and_congr ?_ ?_)))))
  · simp
  · cases o.register <;> simp [← Decidable.imp_iff_not_or]
  · simp [← Decidable.imp_iff_not_or]
  · cases o.min <;> cases o.max <;> simp [← Decidable.imp_iff_not_or]
  · cases o.min <;> cases o.max <;> simp [← Decidable.imp_iff_not_or]
  · simp [← Decidable.imp_iff_not_or]
  · cases inSet <;> simp

def VariantWF (regs setNames : List String) (isMacro : Bool) (v : RawVariant) : Prop :=
  (isMacro = true ∨ v.hasBytecode = true) ∧
  (v.hasOperands = true →
    (∃ n, v.count = some n) ∧
    (∀ refs, v.setRefs = some refs → (∀ s ∈ refs, s ∈ setNames) ∧ v.count = some refs.length) ∧
    (∀ ops ∈ v.specific, ∀ o ∈ ops, OperandWF regs false o))

theorem variantOk_iff (regs setNames : List String) (isMacro : Bool) (v : RawVariant) :
    variantOk regs setNames isMacro v = true ↔ VariantWF regs setNames isMacro v := by
  unfold variantOk VariantWF
  simp only [Bool.and_eq_true, Bool.or_eq_true, and_assoc]
  refine and_congr Iff.rfl ?_
  cases v.hasOperands
  · simp
  · simp only [Bool.not_true, Bool.false_eq_true, false_or, true_implies]
    refine and_congr ?_ (and_congr ?_ ?_)
    · simp [Option.isSome_iff_exists]
    · cases v.setRefs <;> simp
    · simp [List.all_eq_true, operandOk_iff]

/-- the declarative reading of "well-formed" in the property -/
def WellFormed (running minSupported : Version) (c : RawIsa) : Prop :=
  c.hasGeneral = true ∧ c.hasInstructions = true ∧ c.hasOperandSets = true ∧
  (∀ s, c.minVersion = some s → ∃ v, parseVersion s = some v ∧ vle minSupported v = true ∧ vle v running = true) ∧
  (∀ s, c.isaVersion = some s → (parseVersion s).isSome = true) ∧
  (∀ r ∈ c.registers, r ∉ keywords) ∧
  (∀ s ∈ c.operandSets, ∀ o ∈ s.2, OperandWF c.registers true o) ∧
  (∀ i ∈ c.instructions, i.1.toLower ∉ lowerKeywords ∧ i.2 ≠ [] ∧
      ∀ v ∈ i.2, VariantWF c.registers (c.operandSets.map (·.1)) false v) ∧
  (∀ m ∈ c.macros, m.1.toLower ∉ lowerKeywords ∧ m.1.toLower ∉ c.instructions.map (·.1.toLower) ∧
      ∀ v ∈ m.2, VariantWF c.registers (c.operandSets.map (·.1)) true v) ∧
  zonesOk c.bits c.origin c.zones = true

/-- Main statement: a definition is accepted iff it is well-formed — malformed definitions are
    rejected, well-formed ones never are. -/
theorem validate_ok_iff (running minSupported : Version) (c : RawIsa) :
    validate running minSupported c = true ↔ WellFormed running minSupported c := by
  unfold validate WellFormed
  simp only [Bool.and_eq_true, and_assoc]
  refine and_congr Iff.rfl (and_congr Iff.rfl (and_congr Iff.rfl (and_congr ?_ (and_congr ?_
    (and_congr ?_ (and_congr ?_ (and_congr ?_ (and_congr ?_ Iff.rfl))))))))
  · cases c.minVersion with
    | none => simp
    | some s =>
      cases hp : parseVersion s with
      | none => simp [hp]
      | some v => simp [hp, gate_spec]
  · cases c.isaVersion <;> simp
  · simp only [List.all_eq_true, Bool.not_eq_true', List.contains_eq_mem, decide_eq_false_iff_not]
  · simp only [List.all_eq_true, operandOk_iff]
  · simp only [List.all_eq_true, Bool.and_eq_true, Bool.not_eq_true', List.contains_eq_mem, decide_eq_false_iff_not, variantOk_iff, and_assoc,
      List.isEmpty_eq_false_iff, ne_eq]
  · simp only [List.all_eq_true, Bool.and_eq_true, Bool.not_eq_true', List.contains_eq_mem, decide_eq_false_iff_not, variantOk_iff, and_assoc]

/-- memory zones: non-inverted, inside the address space, inside GLOBAL; the default origin inside GLOBAL -/
theorem zonesOk_zone (bits : Nat) (origin : Int) (zones : List (String × Int × Int)) (n : String) (s e : Int)
    (h : zonesOk bits origin zones = true) (hm : (n, s, e) ∈ zones) :
    0 ≤ s ∧ s ≤ e ∧ e ≤ (2 : Int) ^ bits - 1 := by
  unfold zonesOk at h
  simp only [Bool.and_eq_true, List.all_eq_true, decide_eq_true_eq] at h
  have := h.1.1.1.1.1 _ hm
  dsimp only at this
  exact ⟨this.1.1.1.1, this.1.1.1.2, this.1.1.2⟩

/-- non-vacuity: the orderings the string comparison got wrong -/
example : vlt ⟨[0, 4, 3], some (1, 1)⟩ ⟨[0, 4, 10], none⟩ = true := by simp [vlt, vcmp, relCmp]
example : vlt ⟨[0, 3, 0], none⟩ ⟨[0, 10, 0], none⟩ = true := by simp [vlt, vcmp, relCmp]
example : vlt ⟨[0, 4, 3], some (1, 1)⟩ ⟨[0, 4, 3], none⟩ = true := prerelease_before_release _ _ _

end BV.C19
