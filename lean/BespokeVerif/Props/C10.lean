/-
  Property C10 — a macro assembles to exactly its expanded instruction sequence.
-/
import BespokeVerif.Model.Macro
import BespokeVerif.Lemmas.Macro
import BespokeVerif.Lemmas.StmtSize
namespace BV.C10
open BV

/-- Main refinement: the step loop with a running address emits exactly the concatenation of the
    bytes obtained by assembling the instantiated templates, in order, as ordinary statements —
    statement `k` at `addr + Σ_{j<k} size j` (also for steps that are not whole bytes in the ISA and
    for steps with address-relative operands). -/
theorem steps_eq_expansion (regs : List String) (gz : Int × Int) (env : String → Option Int) (tbl : InstrTable)
    (addr : Int) (steps : List (String × List Form)) :
    assembleSteps regs gz env tbl addr steps = (specSteps regs gz env tbl addr steps).map List.flatten := by
  unfold specSteps
  rw [specGo_eq regs gz env tbl addr steps [] addr (Int.add_zero addr).symm]
  cases assembleSteps regs gz env tbl addr steps <;> rfl

/-- a macro occupies exactly the sum of the bytes of its steps -/
theorem macro_size (regs : List String) (gz : Int × Int) (env : String → Option Int) (tbl : InstrTable)
    (addr : Int) (steps : List (String × List Form)) (bss : List (List Nat)) (bs : List Nat)
    (hs : specSteps regs gz env tbl addr steps = .ok bss) (hb : assembleSteps regs gz env tbl addr steps = .ok bs) :
    bs.length = (bss.map List.length).foldl (· + ·) 0 ∧ bss.length = steps.length := by
  have h := steps_eq_expansion regs gz env tbl addr steps
  rw [hs, hb] at h
  have hbs : bs = bss.flatten := by
    simpa [Except.map] using h
  refine ⟨?_, ?_⟩
  · rw [hbs, List.length_flatten, List.sum_eq_foldl_nat]
  · have := specGo_length hs
    simpa using this

/-- … and that many bytes were already reserved when addresses were assigned: the sizes of the steps
    are known from variant selection alone (`stepSizes` evaluates no expression and takes no address),
    so the labels after the invocation are placed accordingly whatever the operands evaluate to -/
theorem macro_reserved_eq_emitted (regs : List String) (gz : Int × Int) (env : String → Option Int) (tbl : InstrTable)
    (addr : Int) (mvs : List MacroVariant) (fs : List Form) (i : Nat) (bs : List Nat)
    (h : assembleMacro regs gz env tbl addr mvs fs = .ok (i, bs)) :
    ∃ steps sizes, expandMacro regs gz mvs fs = .ok (i, steps) ∧ stepSizes regs gz tbl steps = some sizes ∧
      bs.length = sizes.sum := by
  obtain ⟨⟨j, steps⟩, he, h⟩ := bind_eq_ok h
  obtain ⟨b, hs, h⟩ := bind_eq_ok h
  cases h
  obtain ⟨sizes, hsz, hsum⟩ := assembleSteps_length hs
  exact ⟨steps, sizes, he, hsz, hsum⟩

/-- the reserved size does not depend on the label environment or the address: two assemblies of
    the same invocation (first pass with unknown forward labels, second pass with the final values;
    or the same macro at another address) emit the same number of bytes -/
theorem macro_size_env_independent (regs : List String) (gz : Int × Int) (env env' : String → Option Int)
    (tbl : InstrTable) (addr addr' : Int) (mvs : List MacroVariant) (fs : List Form) (i i' : Nat) (bs bs' : List Nat)
    (h : assembleMacro regs gz env tbl addr mvs fs = .ok (i, bs))
    (h' : assembleMacro regs gz env' tbl addr' mvs fs = .ok (i', bs')) :
    bs.length = bs'.length ∧ i = i' := by
  obtain ⟨steps, sizes, he, hs, hl⟩ := macro_reserved_eq_emitted regs gz env tbl addr mvs fs i bs h
  obtain ⟨steps', sizes', he', hs', hl'⟩ := macro_reserved_eq_emitted regs gz env' tbl addr' mvs fs i' bs' h'
  rw [he] at he'
  simp only [Except.ok.injEq, Prod.mk.injEq] at he'
  obtain ⟨rfl, rfl⟩ := he'
  rw [hs] at hs'
  cases hs'
  exact ⟨by rw [hl, hl'], rfl⟩

/-- steps are assembled in order: the first step of a macro is assembled at the macro's address,
    and the remaining steps behind it -/
theorem steps_cons (regs : List String) (gz : Int × Int) (env : String → Option Int) (tbl : InstrTable)
    (addr : Int) (mn : String) (fs : List Form) (rest : List (String × List Form)) (variants : List VariantCfg)
    (i : Nat) (bs : List Nat) (ht : tbl.find? (·.1 == mn) = some (mn, variants))
    (h1 : assembleStmt regs gz env addr variants fs = .ok (i, bs)) :
    assembleSteps regs gz env tbl addr ((mn, fs) :: rest) =
      (assembleSteps regs gz env tbl (addr + bs.length) rest).map fun tail => bs ++ tail := by
  rw [assembleSteps_cons, ht]
  dsimp only
  rw [h1]

/-- the macro variant is chosen by the same operand-matching rules as an instruction variant:
    first variant in definition order whose operand pattern accepts -/
theorem macro_variant_first (regs : List String) (gz : Int × Int) (mvs : List MacroVariant) (fs : List Form)
    (i : Nat) (mv : MacroVariant) (m : Matched)
    (h : ∃ r, selectMacro regs gz mvs fs = r ∧ (match r with | .ok (i', _, _) => i' = i | _ => False))
    (hi : mvs[i]? = some mv) :
    (∀ j, j < i → ∀ u, mvs[j]? = some u → (match matchVariant regs gz u.operands fs with | .decline => True | _ => False)) ∧
    (match matchVariant regs gz mv.operands fs with | .ok _ => True | _ => False) := by
  obtain ⟨r, hr, hm⟩ := h
  split at hm
  · next i' mv' m' =>
    subst hm
    obtain ⟨pre, post, hl, hj, hpre, hv⟩ := selectMacro_ok hr
    subst hl hj
    have hmv : mv = mv' := by simpa using hi.symm
    subst hmv
    refine ⟨fun j hj u hu => ?_, by rw [hv]; trivial⟩
    rw [List.getElem?_append_left hj] at hu
    rw [hpre u (List.mem_of_getElem? hu)]
    trivial
  · exact hm.elim

/-- a placeholder that cannot be filled is rejected: index beyond the operands … -/
theorem placeholder_out_of_range (v : VariantCfg) (m : Matched) (fs : List Form) (n : Nat) (hn : m.ops.length ≤ n) :
    instTForm v m fs (.arg n) = .error .other ∧ instTForm v m fs (.reg n) = .error .other ∧
    instTForm v m fs (.op n) = .error .other := by
  have hnone : m.ops[n]? = none := List.getElem?_eq_none hn
  refine ⟨?_, ?_, ?_⟩ <;> simp only [instTForm, hnone]

/-- … @ARG of an operand without argument (e.g. a register) … -/
theorem arg_without_argument (v : VariantCfg) (m : Matched) (fs : List Form) (n : Nat) (p : ParsedOp)
    (hp : m.ops[n]? = some p) (ha : p.arg = none) : instTForm v m fs (.arg n) = .error .other := by
  simp only [instTForm, hp, ha]

/-- … @REG of an operand that is not register based -/
theorem reg_without_register (v : VariantCfg) (m : Matched) (fs : List Form) (n : Nat) (p : ParsedOp)
    (hp : m.ops[n]? = some p) (hr : (findCfg v p.id).bind OperandCfg.regName = none) :
    instTForm v m fs (.reg n) = .error .other := by
  simp only [instTForm, hp, hr]

/-- placeholders are replaced by the n-th operand's argument expression / register name / text -/
theorem arg_substituted (v : VariantCfg) (m : Matched) (fs : List Form) (n : Nat) (p : ParsedOp) (a : FieldSpec)
    (hp : m.ops[n]? = some p) (ha : p.arg = some a) : instTForm v m fs (.arg n) = .ok (.plain a.e) := by
  simp only [instTForm, hp, ha]

theorem op_substituted (v : VariantCfg) (m : Matched) (fs : List Form) (n : Nat) (p : ParsedOp) (f : Form)
    (hp : m.ops[n]? = some p) (hf : fs[n]? = some f) : instTForm v m fs (.op n) = .ok f := by
  simp only [instTForm, hp, hf]

/-- a failing step makes the whole invocation fail -/
theorem step_error_propagates (regs : List String) (gz : Int × Int) (env : String → Option Int) (tbl : InstrTable)
    (addr : Int) (mn : String) (fs : List Form) (rest : List (String × List Form)) (variants : List VariantCfg) (e : Err)
    (ht : tbl.find? (·.1 == mn) = some (mn, variants)) (h1 : assembleStmt regs gz env addr variants fs = .error e) :
    assembleSteps regs gz env tbl addr ((mn, fs) :: rest) = .error e := by
  rw [assembleSteps_cons, ht]
  dsimp only
  rw [h1]

/-- a macro variant without instruction templates expands to nothing: its invocation emits no byte (and, by
    `macro_reserved_eq_emitted`, reserves none), so whatever follows keeps its address -/
theorem empty_expansion_emits_nothing (regs : List String) (gz : Int × Int) (env : String → Option Int) (tbl : InstrTable)
    (addr : Int) : assembleSteps regs gz env tbl addr [] = .ok [] := by
  rw [assembleSteps]

/-- … and the selected variant's empty template list is the empty statement list -/
theorem empty_variant_expands_to_nothing (regs : List String) (gz : Int × Int) (mvs : List MacroVariant) (fs : List Form)
    (i : Nat) (mv : MacroVariant) (m : Matched) (hs : selectMacro regs gz mvs fs = .ok (i, mv, m)) (he : mv.steps = []) :
    expandMacro regs gz mvs fs = .ok (i, []) := by
  unfold expandMacro
  rw [hs]
  simp [he]

end BV.C10
