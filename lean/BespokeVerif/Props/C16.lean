/-
  Property C16 — all output formats describe the same memory contents as the binary image.
  The decoders (`Model/Output.lean`) are what the check applies to the text printed by the real assembler. The
  theorems are about their record and row level (`parseIRec`, `recsToMap`, `mhRowsToMap`, `mergePRows`), which inverts
  the reference encoders; the text-level entry points (`decIHex`, `decMinHex`, `decListing`, `decHexDump`) have none.
-/
import BespokeVerif.Model.Output
import BespokeVerif.Lemmas.Output
import BespokeVerif.Lemmas.FormatsImage
import BespokeVerif.Lemmas.Listing
namespace BV.C16
open BV

theorem parseHexPairs_hexByte (bs : List Nat) (h : ∀ b ∈ bs, b < 256) :
    parseHexPairs (bs.flatMap hexByte) = some bs :=
  parseHexPairs_flatMap_hexByte h

def IRec.wf (r : IRec) : Prop := r.addr < 65536 ∧ r.typ < 256 ∧ r.data.length < 256 ∧ ∀ b ∈ r.data, b < 256

/-- the text of one record -/
def renderIRec (r : IRec) : List Char := ':' :: (r.bytes ++ [r.checksum]).flatMap hexByte

/-- a record is read back exactly, and only with a correct checksum -/
theorem parseIRec_render (r : IRec) (h : IRec.wf r) : parseIRec (renderIRec r) = .ok r := by
  obtain ⟨h1, h2, h3, h4⟩ := h
  unfold renderIRec
  rw [parseIRec_bytes h1 h2 h3 h4 r.checksum (Nat.mod_lt _ (by decide)), if_neg (fun h => h rfl)]

theorem checksum_valid (r : IRec) : ((r.bytes.foldl (· + ·) 0) + r.checksum) % 256 = 0 := by
  unfold IRec.checksum; omega

/-- a corrupted checksum is rejected -/
theorem parseIRec_bad_checksum (r : IRec) (h : IRec.wf r) (c : Nat) (hc : c < 256) (hne : c ≠ r.checksum) :
    ∃ e, parseIRec (':' :: (r.bytes ++ [c]).flatMap hexByte) = .error e := by
  obtain ⟨h1, h2, h3, h4⟩ := h
  refine ⟨.other, ?_⟩
  rw [parseIRec_bytes h1 h2 h3 h4 c hc, if_pos hne]

/-- decoding the records of one contiguous run (at most 16 bytes per record, never across a 64 K
    boundary, an extended-address record whenever the upper half changes) gives back the run -/
theorem recsToMap_encRun (bs : List Nat) (a : Nat) (m : AddrMap) (h32 : a + bs.length ≤ 2 ^ 32) :
    recsToMap (encRun (bs.length + 1) a bs none).1 0 m =
      m ++ (List.range bs.length).map fun (i : Nat) => (((a + i : Nat) : Int), bs[i]!) :=
  recsToMap_encRun_gen (Nat.le_succ _) h32 (fun _ h => nomatch h)

/-- rows of the compact format never exceed 16 bytes -/
theorem encMinHex_row_le (ols : List OutLine) (cur : List Nat) (hc : cur.length < 16) :
    ∀ r ∈ encMinHex ols cur, match r with | .bytes bs => bs.length ≤ 16 | .addr _ => True := by
  -- the unfinished row, when it is put out
  have hcur : ∀ cur : List Nat, cur.length < 16 →
      ∀ r ∈ (if cur.isEmpty then [] else [MHRow.bytes cur]),
        match r with | .bytes bs => bs.length ≤ 16 | .addr _ => True := by
    intro cur hc
    split
    · exact fun _ h => nomatch h
    · exact List.forall_mem_singleton.2 (Nat.le_of_lt hc)
  induction ols generalizing cur with
  | nil => rw [encMinHex]; exact hcur cur hc
  | cons x ols ih =>
    cases x with
    | bytes a bs mu =>
      cases mu
      · rw [encMinHex]
        refine List.forall_mem_append.2 ⟨List.forall_mem_map.2 fun i _ => List.length_take_le _ _, ih _ ?_⟩
        -- what is left over after the full rows is shorter than a row
        rw [List.length_drop, ← Nat.mod_def]; exact Nat.mod_lt _ (by decide)
      · rw [encMinHex]; exact ih _ hc
    | org a =>
      rw [encMinHex]
      exact List.forall_mem_append.2 ⟨List.forall_mem_append.2 ⟨hcur cur hc, List.forall_mem_singleton.2 trivial⟩,
        ih [] (by decide)⟩
    | other a => rw [encMinHex]; exact ih _ hc

/-- Partial round trip (finding class `minhex-gap-without-org` excluded by the hypothesis): when
    every gap is announced by an `.org`, the compact format decodes to exactly the unmuted bytes
    at their assigned addresses. -/
theorem minhex_roundtrip_partial (ols : List OutLine) (h : everyGapHasOrg ols 0 = true)
    (hnn : ∀ a, OutLine.org a ∈ ols → 0 ≤ a) :
    mhRowsToMap (encMinHex ols []) 0 [] = outLinesMap ols :=
  minhex_roundtrip_gen [] h rfl hnn

/-- the full statement is false on the unchanged code: the muted-line witness -/
theorem minhex_counterexample :
    mhRowsToMap (encMinHex [.bytes 0 [1] false, .bytes 1 [2] true, .bytes 2 [3] false] []) 0 []
      ≠ outLinesMap [.bytes 0 [1] false, .bytes 1 [2] true, .bytes 2 [3] false] := by
  decide +kernel

/-- muted lines appear in none of the memory-describing formats -/
theorem outLinesMap_muted (a : Int) (bs : List Nat) (pre post : List OutLine) :
    outLinesMap (pre ++ .bytes a bs true :: post) = outLinesMap (pre ++ post) := by
  rw [outLinesMap_append, outLinesMap_skip (fun _ _ h => by cases h), outLinesMap_append]
theorem encMinHex_muted (a : Int) (bs : List Nat) (rest : List OutLine) (cur : List Nat) :
    encMinHex (.bytes a bs true :: rest) cur = encMinHex rest cur := by
  rw [encMinHex]

/-- a continuation row extends the bytes of the statement above it; a primary row starts a new
    statement with its own address -/
theorem lrowsMap_append (r₁ r₂ : List LRow) : lrowsMap (r₁ ++ r₂) = lrowsMap r₁ ++ lrowsMap r₂ :=
  List.flatMap_append

theorem lrowsMap_row (r : LRow) :
    lrowsMap [r] = (List.range r.bytes.length).map fun (i : Nat) => (((r.addr + i : Nat) : Int), r.bytes[i]!) :=
  List.flatMap_singleton ..

/-- non-vacuity -/
example : parseIRec ":0300100010111 2BA".toList = .error .other := by decide +kernel
example : parseIRec ":03001000101112BA".toList = .ok { addr := 16, typ := 0, data := [16, 17, 18] } := by decide +kernel
example : decMinHexLines [":aa 01".toList, "00020".toList, ":41".toList] 0 [] = .ok [(0, 170), (1, 1), (32, 65)] := by
  decide +kernel

/-- the pretty printers are fed the very lines the image is made of: the address→byte pairs of the lines
    handed to the printers are those of the unmuted emitted byte lines, in the same order -/
theorem printers_fed_image_lines (cfg : Cfg) (L : Labels) (ps : List Placed) (es : List Emitted)
    (h : emitAll cfg L ps = .ok es) :
    ∃ ols, toOutLines cfg L ps = .ok ols ∧ outLinesMap ols = emittedMap es := by
  induction ps generalizing es with
  | nil => cases h; exact ⟨[], rfl, rfl⟩
  | cons p rest ih =>
    obtain ⟨bs, es', hb, hr, rfl⟩ := emitAll_cons_ok h
    obtain ⟨ols', ho, hm⟩ := ih es' hr
    rw [toOutLines, ho, emittedMap_cons, ← hm]
    simp only [bind, Except.bind]
    -- the three kinds of printer line: origin, bytes (muted or not), anything else
    split
    · rename_i hs
      exact ⟨_, rfl, by rw [hs]; rfl⟩
    · cases hbl : isByteLine p.line.stmt with
      | false => exact ⟨_, rfl, rfl⟩
      | true =>
        simp only [hb, if_true]
        exact ⟨_, rfl, by cases p.line.muted <;> rfl⟩

/-- end to end, for EVERY accepted program and every window / fill: the printers receive a line list, and each
    byte of the binary image is what that list says about its address (the fill value where it says nothing) -/
theorem accepted_image_is_what_printers_get (cfg : Cfg) (files : List (List Stmt)) (start : Int) (stop : Option Int)
    (fill : Nat) (o : Outcome) (h : assemble cfg files start stop fill = .ok o) :
    ∃ ols, assembleOut cfg files = .ok ols ∧
      o.image = (List.range o.image.length).map fun (i : Nat) =>
        (mapGet (outLinesMap ols) (start + (i : Int))).getD (fill % 256) := by
  obtain ⟨es, L, hl, ho, rfl⟩ := assemble_ok h
  obtain ⟨sorted, hp, he⟩ := assembleLines_ok hl
  obtain ⟨ols, hols, hmap⟩ := printers_fed_image_lines cfg L _ es he
  refine ⟨ols, ?_, ?_⟩
  · unfold assembleOut; rw [hp]; exact hols
  · show imageOf start stop (fill % 256) (memMap es) = _
    rw [imageOf_eq_fast (assembleLines_noCommon hl ho)]
    unfold imageFast
    simp only [List.length_map, List.length_range]
    apply List.map_congr_left
    intro i _
    rw [specImageByte_eq_findSome, ← mapGet_emittedMap, hmap]

/-- … hence the image is what the decoded compact-hex text says, for every accepted program in which every gap
    is announced by an `.org` (partial: the excluded class is the listed finding D17) -/
theorem accepted_image_eq_decoded_minhex_partial (cfg : Cfg) (files : List (List Stmt)) (start : Int) (stop : Option Int)
    (fill : Nat) (o : Outcome) (h : assemble cfg files start stop fill = .ok o)
    (ols : List OutLine) (hols : assembleOut cfg files = .ok ols)
    (hgap : everyGapHasOrg ols 0 = true) (hnn : ∀ a, OutLine.org a ∈ ols → 0 ≤ a) :
    o.image = (List.range o.image.length).map fun (i : Nat) =>
      (mapGet (mhRowsToMap (encMinHex ols []) 0 []) (start + (i : Int))).getD (fill % 256) := by
  obtain ⟨ols', h1, h2⟩ := accepted_image_is_what_printers_get cfg files start stop fill o h
  rw [hols] at h1
  cases h1
  rw [minhex_roundtrip_partial ols hgap hnn]
  exact h2

/-- non-vacuity: three placed lines (one of them muted); what the image lines say and what the printers are
    handed is the same list of address→byte pairs -/
def exCfg16 : Cfg := { bits := 8, origin := 0, little := true, pageSize := 1, regs := [], preZones := [], preConsts := [], preData := [] }
def exPl : List Placed := [{ line := { stmt := .bytes [1, 2], scope := .file 0, zone := "GLOBAL", muted := false, file := 0 }, addr := 0, size := 2 },
  { line := { stmt := .bytes [9], scope := .file 0, zone := "GLOBAL", muted := true, file := 0 }, addr := 2, size := 1 },
  { line := { stmt := .bytes [3], scope := .file 0, zone := "GLOBAL", muted := false, file := 0 }, addr := 8, size := 1 }]
example : (emitAll exCfg16 {} exPl).toOption.map emittedMap = some [(0, 1), (1, 2), (8, 3)] := by decide +kernel
example : (toOutLines exCfg16 {} exPl).toOption.map outLinesMap = some [(0, 1), (1, 2), (8, 3)] := by decide +kernel

/-- the rows a statement's bytes are spread over carry all of its bytes, in order -/
theorem listing_rows_carry_all_bytes (k : Nat) (hk : 0 < k) (bs : List Nat) :
    (chunkRows k bs.length bs).flatten = bs :=
  chunkRows_flatten hk bs.length bs (Nat.le_refl _)

/-- no row is wider than the listing's bytes-per-row -/
theorem listing_row_width (k : Nat) (bs : List Nat) : ∀ c ∈ chunkRows k bs.length bs, c.length ≤ k :=
  chunkRows_row_le k bs.length bs

/-- the listing shows each assembled statement exactly once, with the address it was assigned and all the bytes it
    produced, however many continuation rows its bytes take: decoding the rows gives back the statements -/
theorem listing_statement_once (k : Nat) (hk : 0 < k) (rows : List LRow) :
    mergePRows (rows.flatMap (encListingLine k)) [] = rows :=
  mergePRows_listing hk rows []

example : encListingLine 6 ⟨3, 16, [1, 2, 3, 4, 5, 6, 7, 8]⟩ = [.primary 3 16 [1, 2, 3, 4, 5, 6], .cont [7, 8]] := by decide +kernel
example : encListingLine 6 ⟨4, 24, []⟩ = [.primary 4 24 []] := by decide +kernel

end BV.C16
