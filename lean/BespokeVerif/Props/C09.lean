/-
  Property C09 — preprocessor symbols are substituted as whole words, in definition order.
-/
import BespokeVerif.Model.Subst
import BespokeVerif.Lemmas.Subst
namespace BV.C09
open BV

/-- a word that is a defined symbol candidate -/
def isDefined (t : STab) : Seg → Bool
  | .word w => isCandidate w && (t.get? w).isSome
  | .other _ => false

/-- the fuel supplied by `expand` is never exhausted -/
theorem expand_never_out_of_fuel (t : STab) (l : List Seg) : expand t l ≠ .error .outOfFuel := by
  intro h
  cases (expand_error (.nil t _ (Nat.le_succ _))).2 l _ h

/-- "until no defined symbol remains": the expansion contains no defined symbol -/
theorem expand_fixpoint (t : STab) (l l' : List Seg) (h : expand t l = .ok l') :
    ∀ s ∈ l', isDefined t s = false := by
  intro s hs
  have := (expand_fix t).2 _ _ _ h s hs
  cases s <;> exact this

/-- identifiers that merely contain a symbol's name, undefined words and all non-word text are left
    untouched: a line without a defined whole word is returned verbatim -/
theorem expand_untouched (t : STab) (l : List Seg) (h : ∀ s ∈ l, isDefined t s = false) :
    expand t l = .ok l := by
  have h' : ∀ s ∈ l, segDef t s = false := fun s hs => by
    have := h s hs
    cases s <;> exact this
  rw [expand_eq_seqM]
  exact seqM_wordStep_id (fun s hs => expandWord_not_def hs) h'

/-- expansion is word-local: the line is expanded segment by segment, in order -/
theorem expand_append (t : STab) (l₁ l₂ r₁ r₂ : List Seg) (h₁ : expand t l₁ = .ok r₁) (h₂ : expand t l₂ = .ok r₂) :
    expand t (l₁ ++ l₂) = .ok (r₁ ++ r₂) := by
  rw [expand_eq_seqM] at h₁ h₂ ⊢
  rw [seqM_append, h₁, h₂]; rfl

/-- a symbol whose replacement leads back to itself is rejected when used -/
theorem self_cycle_rejected (t : STab) (s : String) (repl : List Seg) (hc : isCandidate s = true)
    (hg : t.get? s = some repl) (hm : Seg.word s ∈ repl) :
    expand t [.word s] = .error .symbolCycle := by
  have h0 := PathOK.nil t (t.length + 1) (Nat.le_succ _)
  obtain ⟨d, hd, hp⟩ := h0.cons hg List.not_mem_nil
  -- `s` occurs in its own text and fails there, so it fails; every error at these depths is a cycle
  rw [expand_eq_seqM]
  refine seqM_wordStep_error_of_mem (expand_error h0).1 (e := .symbolCycle)
    (List.mem_singleton_self (Seg.word s)) ?_
  rw [hd, expandWord_def hc hg, if_neg List.not_mem_nil, Nat.mul_succ, expandSegs_succ]
  exact seqM_wordStep_error_of_mem (expand_error hp).1 hm
    ((expandWord_def hc hg).trans (if_pos (List.mem_singleton_self s)))

/-- the algorithm of the implementation (candidate scan, per-candidate recursive resolution with the
    set of symbols being resolved, whole-word replacement, re-scan) computes exactly the expansion -/
theorem resolve_eq_expand (t : STab) (l : List Seg) : resolve t l = expand t l := by
  rw [resolve, show 3 * t.length + 6 = t.length + 1 + 2 * (t.length + 1) + 3 by omega]
  exact resolveImpl_eq_expandSegs (.nil t _ (Nat.le_succ _)) _ l

/-- defining a symbol twice is rejected, whatever the source of the first definition -/
theorem redefine_rejected (t : STab) (n : String) (v : List Seg) (h : (t.get? n).isSome = true) :
    addS t n v = .error .symbolRedefined := by
  simp [addS, h]
theorem define_fresh (t : STab) (n : String) (v : List Seg) (h : (t.get? n).isSome = false) :
    addS t n v = .ok (t ++ [(n, v)]) := by
  simp [addS, h]

/-- definition order: a line is expanded with the table as of that line — uses that precede the
    definition are left untouched -/
theorem use_before_define (f : STab → List Seg → Except Err (List Seg)) (t : STab) (l : List Seg) (n : String)
    (v : List Seg) (rest : List SItem) (e : List Seg) (h : f t l = .ok e) :
    ∃ r : Except Err (List (List Seg)),
      substProg f t (.line l :: .define n v :: rest) = r.map (fun tl => e :: tl) := by
  refine ⟨substProg f t (.define n v :: rest), ?_⟩
  conv => lhs; rw [substProg, h]
  cases substProg f t (.define n v :: rest) <;> rfl

/-- segmentation loses nothing -/
theorem unsegment_segment (cs : List Char) : unsegment (segment cs) = String.ofList cs := by
  have := unsegment_segmentAux cs none []
  simpa [segment, pendingChars, unsegment] using this

/-- segmentation yields maximal runs: every word segment consists of word characters only and
    every other segment of non-word characters only -/
theorem segment_kinds (cs : List Char) :
    ∀ s ∈ segment cs, match s with
      | .word w => w.toList ≠ [] ∧ w.toList.all isWordChar = true
      | .other o => o.toList ≠ [] ∧ o.toList.all (fun c => !isWordChar c) = true := by
  intro s hs
  have := segmentAux_ok cs none [] (fun _ h => nomatch h) trivial s hs
  cases s <;> exact this

/-- non-vacuity: `MYVAL` and `VAL_X` are untouched while `VAL` is expanded through a chain -/
example :
    (expand [("VAL", segment "AA + 1".toList), ("AA", segment "5".toList)]
      (segment ".byte VAL, MYVAL,VAL_X".toList)).map unsegment = .ok ".byte 5 + 1, MYVAL,VAL_X" := by
  rw [expand_eq_xWord]
  decide +kernel
example :
    resolve [("CY", segment "CZ".toList), ("CZ", segment "CY + 1".toList)] (segment ".byte CY".toList)
      = .error .symbolCycle := by
  rw [resolve_eq_expand, expand_eq_xWord]
  decide +kernel

end BV.C09
