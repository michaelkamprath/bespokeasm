/-
  Property C14 — assembly always terminates and fails closed.  (Partial: the logic is proved on the
  model; that the Python process terminates and that no failure can happen after the write are
  observed by the check, not proved.)
  Termination of the model: every definition in `Model/` is a total function accepted by Lean's
  termination checker.  Of the fuel-indexed ones, the expression lexer and parser, the symbol expansion and
  the text front end are shown never to exhaust the fuel supplied at their entry point
  (`C07.parse_never_out_of_fuel`, `C07.lex_never_out_of_fuel`, `C09.expand_never_out_of_fuel`,
  `text_front_end_never_out_of_fuel` below); for `readFile` (include depth, fuel `#files + 1`) and
  `resolveWord` (chains of `#define`, fuel `#symbols + 1`) no theorem says so.
-/
import BespokeVerif.Model.Run
import BespokeVerif.Model.Select
import BespokeVerif.Lemmas.Run
import BespokeVerif.Lemmas.Image
import BespokeVerif.Lemmas.ParseFuel
import BespokeVerif.Lemmas.Layout
namespace BV.C14
open BV

/-- when assembling fails, no image is created or altered: the file system is unchanged -/
theorem run_error_fs_unchanged (cfg : Cfg) (files : List (List Stmt)) (start : Int) (stop : Option Int) (fill : Nat)
    (out : String) (fs : FS) (e : Err) (h : assemble cfg files start stop fill = .error e) :
    runCompile cfg files start stop fill out fs = (false, fs) := by
  simp only [runCompile, h]

/-- when success is reported the image exists and holds the assembled bytes -/
theorem run_ok_file_exists (cfg : Cfg) (files : List (List Stmt)) (start : Int) (stop : Option Int) (fill : Nat)
    (out : String) (fs : FS) (o : Outcome) (h : assemble cfg files start stop fill = .ok o) :
    (runCompile cfg files start stop fill out fs).1 = true ∧
    (runCompile cfg files start stop fill out fs).2.read out = some o.image := by
  simp only [runCompile, h]
  exact ⟨trivial, FS.read_write_same fs out o.image⟩

/-- no other file is touched -/
theorem run_other_files_untouched (cfg : Cfg) (files : List (List Stmt)) (start : Int) (stop : Option Int) (fill : Nat)
    (out other : String) (fs : FS) (hne : (other == out) = false) :
    (runCompile cfg files start stop fill out fs).2.read other = fs.read other := by
  unfold runCompile
  split
  · exact FS.read_write_other hne
  · rfl

/-- success and the written file go together: the exit status is success iff assembly succeeded -/
theorem run_status_iff (cfg : Cfg) (files : List (List Stmt)) (start : Int) (stop : Option Int) (fill : Nat)
    (out : String) (fs : FS) :
    (runCompile cfg files start stop fill out fs).1 = true ↔ ∃ o, assemble cfg files start stop fill = .ok o := by
  unfold runCompile
  cases h : assemble cfg files start stop fill with
  | ok o => simp
  | error e => simp

/-- an expression that mentions an unresolvable label has no value -/
theorem unresolved_label_no_value (env : String → Option Int) (e : E) (s : String) (hs : s ∈ labelsOf e)
    (hn : env s = none) : ∃ err, evalE env e = .error err := by
  induction e with
  | num n => simp [labelsOf] at hs
  | label t =>
    simp only [labelsOf, List.mem_singleton] at hs
    subst hs
    exact ⟨.unresolvedLabel, by simp [evalE, hn]⟩
  | neg e ih =>
    obtain ⟨err, h⟩ := ih hs
    exact ⟨err, by simp only [evalE, h]; rfl⟩
  | byteN k e ih =>
    obtain ⟨err, h⟩ := ih hs
    exact ⟨err, by simp only [evalE, h]; rfl⟩
  | bin op l r ihl ihr =>
    simp only [labelsOf, List.mem_append] at hs
    -- `l` is evaluated first and its error wins; if it has a value the label is not in it (`ihl`), so it is in `r`
    cases hl : evalE env l with
    | error el => exact ⟨el, by simp only [evalE, hl]; rfl⟩
    | ok a =>
      rcases hs with hs | hs
      · obtain ⟨err, h⟩ := ihl hs
        rw [hl] at h; cases h
      · obtain ⟨err, h⟩ := ihr hs
        exact ⟨err, by simp only [evalE, hl, h]; rfl⟩

/-- a line whose bytes cannot be produced makes the second pass fail -/
theorem emitAll_error_propagates (cfg : Cfg) (L : Labels) (pre post : List Placed) (p : Placed) (e : Err)
    (hp : lineBytes cfg L p = .error e) (hpre : ∀ q ∈ pre, ∃ bs, lineBytes cfg L q = .ok bs) :
    emitAll cfg L (pre ++ p :: post) = .error e ∨ ∃ e', emitAll cfg L (pre ++ p :: post) = .error e' := by
  exact Or.inl (emitAll_error_at hp hpre)

/-- success implies that every line produced its bytes (all labels resolved, all values fit) -/
theorem emitAll_ok_all_lines (cfg : Cfg) (L : Labels) (ps : List Placed) (es : List Emitted)
    (h : emitAll cfg L ps = .ok es) : ∀ p ∈ ps, ∃ bs, lineBytes cfg L p = .ok bs := by
  induction ps generalizing es with
  | nil => exact List.forall_mem_nil _
  | cons q qs ih =>
    obtain ⟨bs, es', hb, hr, _⟩ := emitAll_cons_ok h
    exact List.forall_mem_cons.mpr ⟨⟨bs, hb⟩, ih es' hr⟩

/-- a data value that references an unresolvable label is an error of the line -/
theorem data_unresolved_rejected (cfg : Cfg) (L : Labels) (p : Placed) (w : Nat) (vals : List E) (s : String)
    (hs : p.line.stmt = .data w vals) (hv : (.label s) ∈ vals)
    (hn : envOf L cfg.regs p.line.scope s = none) : ∃ e, lineBytes cfg L p = .error e := by
  obtain ⟨e', he'⟩ := mapM_except_error_of_mem hv (valueE_label_unresolved hn)
  refine ⟨e', ?_⟩
  simp only [lineBytes, hs, he']
  rfl

/-- an instruction argument that does not fit its width is an error of the line -/
theorem instr_unfit_rejected (cfg : Cfg) (L : Labels) (p : Placed) (opc : Nat) (e : E) (w : Nat) (v : Int)
    (hs : p.line.stmt = .instr opc [(e, w)]) (hv : valueE (envOf L cfg.regs p.line.scope) e = .ok v)
    (hf : ¬ Fits v (8 * w)) : lineBytes cfg L p = .error .fieldOverflow := by
  simp only [lineBytes, hs, List.mapM_cons, List.mapM_nil, hv, ok_bind, if_neg hf]
  rfl

/-- a statement that no variant accepts is rejected -/
theorem no_variant_rejected (regs : List String) (gz : Int × Int) (env : String → Option Int) (addr : Int)
    (vs : List VariantCfg) (fs : List Form)
    (h : ∀ v ∈ vs, (match matchVariant regs gz v fs with | .decline => True | _ => False)) :
    assembleStmt regs gz env addr vs fs = .error .noVariant := by
  have hd : selectVariant regs gz vs fs 0 = .decline := by
    rw [selectVariant_decline_iff]
    intro v hv
    have := h v hv
    split at this
    · assumption
    · exact this.elim
  simp only [assembleStmt, hd]

/-- the image loop of the model is a bounded iteration: the image never holds more bytes than the
    window — in particular the loop cannot stall on a zero-length line -/
theorem image_length_bound (start stop : Int) (fill : Nat) (m : List (Int × Nat)) :
    (imageOf start (some stop) fill m).length = (stop + 1 - start).toNat := by
  rw [imageOf_length]

/-- a zero-length byte line contributes no key to the address→byte map (the state of the image
    loop of the unrepaired code did not advance on such a line) -/
theorem empty_line_no_key (es₁ es₂ : List Emitted) (e : Emitted) (he : e.bytes = []) :
    memMap (es₁ ++ e :: es₂) = memMap (es₁ ++ es₂) := by
  have hstep : ∀ m, lineStep m e = m := by
    intro m
    unfold lineStep putLine
    rw [he]
    simp
  rw [memMap_eq, memMap_eq, List.foldl_append, List.foldl_append, List.foldl_cons, hstep]

/-- every recursive call of the statement parser is on a strictly shorter text, so fuel above the
    length of the line is enough (no mnemonic is the empty word) -/
theorem statement_parser_never_out_of_fuel (cfg : PCfg) (hmn : cfg.mnemonics.contains "" = false)
    (f : Nat) (t : List Char) (h : t.length < f) : parseStmts cfg f t ≠ .error .outOfFuel :=
  (parseStmts_noOof hmn h).ne

/-- a whole source file: whatever the text, the front end answers with statements or with a genuine
    error, never with "out of fuel" - a rejection by the model is never an artefact of the fuel -/
theorem text_front_end_never_out_of_fuel (cfg : PCfg) (hmn : cfg.mnemonics.contains "" = false) (text : String) :
    parseFile cfg text ≠ .error .outOfFuel := by
  unfold parseFile
  exact Errs.ne ((Errs.mapM fun l _ => parseLine_noOof hmn).bind fun _ _ => .ok _)

/-- evaluation of an expression is structural: no fuel involved -/
theorem eval_never_out_of_fuel (env : String → Option Int) (e : E) : evalE env e ≠ .error .outOfFuel :=
  evalE_noOof.ne

/-- one line whose bytes cannot be built (an unresolved name, a value that does not fit, a violated operand
    constraint) fails the second pass, whether the line is muted or not: muting hides bytes, not errors -/
theorem faulty_line_fails_muted_or_not (cfg : Cfg) (L : Labels) (ps : List Placed) (p : Placed) (hp : p ∈ ps) (e : Err)
    (he : lineBytes cfg L p = .error e) : ∃ e', emitAll cfg L ps = .error e' := by
  cases h : emitAll cfg L ps with
  | error e' => exact ⟨e', rfl⟩
  | ok es =>
    obtain ⟨bs, hb⟩ := emitAll_ok_all_lines cfg L ps es h p hp
    rw [he] at hb; cases hb

/-- … so an accepted program has no line, muted or not, whose bytes could not be built -/
theorem accepted_program_built_every_line (cfg : Cfg) (files : List (List Stmt)) (start : Int) (stop : Option Int)
    (fill : Nat) (o : Outcome) (h : assemble cfg files start stop fill = .ok o) :
    ∃ sorted L, assemblePlaced cfg files = .ok (sorted, L) ∧ ∀ p ∈ sorted, ∃ bs, lineBytes cfg L p = .ok bs := by
  obtain ⟨es, L, hl, _, _⟩ := assemble_ok h
  obtain ⟨sorted, hp, he⟩ := assembleLines_ok hl
  exact ⟨sorted, L, hp, emitAll_ok_all_lines cfg L sorted es he⟩

/-- non-vacuity: a muted data line that names an undefined label cannot be built -/
def exCfgM : Cfg := { bits := 8, origin := 0, little := true, pageSize := 1, regs := [], preZones := [], preConsts := [], preData := [] }
def exMuted : Placed := { line := { stmt := .data 1 [.label "nowhere"], scope := .file 0, zone := "GLOBAL", muted := true, file := 0 }, addr := 2, size := 1 }
example : (lineBytes exCfgM {} exMuted).toOption = none ∧ exMuted.line.muted = true := by decide +kernel

end BV.C14
