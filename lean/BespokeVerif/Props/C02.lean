/-
  Property C02 — address assignment and label values are consistent across both passes.
-/
import BespokeVerif.Model.Layout
import BespokeVerif.Lemmas.Layout
import BespokeVerif.Lemmas.StmtSize
import BespokeVerif.Lemmas.ImageFast
namespace BV.C02
open BV

/-- `.align p` moves the address to the smallest multiple of `p` that is not below it -/
theorem alignUp_dvd (a p : Int) (hp : 0 < p) : p ∣ alignUp a p := by
  exact alignUp_dvd' a p

theorem alignUp_ge (a p : Int) (hp : 0 < p) : a ≤ alignUp a p := by
  unfold alignUp
  split
  · exact Int.le_refl _
  · have := Int.emod_lt_of_pos a hp
    omega

theorem alignUp_least (a p m : Int) (hp : 0 < p) (hd : p ∣ m) (hm : a ≤ m) : alignUp a p ≤ m := by
  unfold alignUp
  split
  · exact hm
  · obtain ⟨k, rfl⟩ := hd
    -- `a` lies strictly between the multiples `a / p` and `k` of `p`: the next multiple is at most the `k`th
    have h := Int.emod_add_mul_ediv a p
    have hlt := Int.emod_lt_of_pos a hp
    have hnn := Int.emod_nonneg a (Int.ne_of_gt hp)
    have hq : a / p < k := Int.lt_of_mul_lt_mul_left (a := p) (by omega) (Int.le_of_lt hp)
    have := Int.mul_le_mul_of_nonneg_left (Int.add_one_le_of_lt hq) (Int.le_of_lt hp)
    rw [Int.mul_add, Int.mul_one] at this
    omega

theorem alignUp_aligned (a p : Int) (hp : 0 < p) (h : p ∣ a) : alignUp a p = a := by
  exact alignUp_aligned' h

/-- address 0 is a multiple of every page size: `.align` at address 0 stays at 0 -/
theorem alignUp_zero (p : Int) : alignUp 0 p = 0 :=
  alignUp_aligned' (Int.dvd_zero p)

/-- the statements whose address is *not* simply the cursor of their zone -/
def movesCursor : Stmt → Bool
  | .org .. => true
  | .align .. => true
  | _ => false

/-- Every line is placed at the cursor of its zone (the address immediately following the bytes
    of the preceding line of that zone) unless an origin or alignment directive intervenes … -/
theorem placed_at_cursor {cfg : Cfg} {zs : Zones} {L : Labels} {ln : Line} {p : Placed} {zs' : Zones}
    {L' : Labels} {z : Zone} (h : firstPassStep cfg (zs, L) ln = .ok (p, zs', L'))
    (hz : zs.get? ln.zone = some z) (hm : movesCursor ln.stmt = false) :
    p.addr = z.cur := by
  obtain ⟨z₀, addr, size, hz₀, hp, _, _, rfl⟩ := firstPassStep_ok h
  rw [hz] at hz₀; cases hz₀
  exact (placeOf_spec hp).1 (fun _ _ hs => by rw [hs] at hm; cases hm) (fun _ hs => by rw [hs] at hm; cases hm)

/-- … and afterwards the cursor of that zone sits right behind the line, all other zones untouched -/
theorem cursor_after {cfg : Cfg} {zs : Zones} {L : Labels} {ln : Line} {p : Placed} {zs' : Zones}
    {L' : Labels} (h : firstPassStep cfg (zs, L) ln = .ok (p, zs', L')) :
    (∃ z', zs'.get? ln.zone = some z' ∧ z'.cur = p.addr + p.size) ∧
    ∀ n, n ≠ ln.zone → zs'.get? n = zs.get? n := by
  obtain ⟨z₀, addr, size, hz₀, hp, hs, _, rfl⟩ := firstPassStep_ok h
  refine ⟨⟨{ z₀ with cur := addr + size }, ?_, rfl⟩, fun n hne => ?_⟩
  · rw [Zones.setCur_get? hs, hz₀, Option.map_some, if_pos rfl]
  · rw [Zones.setCur_get? hs]
    simp only [if_neg hne, Option.map_id']

/-- consecutive lines of one zone are contiguous (two-line form; the zone-interleaved form is
    `C05.zone_concatenates`) -/
theorem placed_contiguous (cfg : Cfg) (st : Zones × Labels) (l₁ l₂ : Line) (rest : List Line)
    (p₁ p₂ : Placed) (ps : List Placed) (zs : Zones) (L : Labels)
    (h : firstPass cfg (l₁ :: l₂ :: rest) st = .ok (p₁ :: p₂ :: ps, zs, L))
    (hz : l₁.zone = l₂.zone) (hm : movesCursor l₂.stmt = false) :
    p₂.addr = p₁.addr + p₁.size := by
  obtain ⟨q₁, zs1, L1, ps1, h1, hrest, he⟩ := firstPass_cons_ok h
  obtain ⟨q₂, zs2, L2, ps2, h2, _, he2⟩ := firstPass_cons_ok hrest
  cases he2; cases he
  obtain ⟨⟨z', hz', hc⟩, _⟩ := cursor_after h1
  rw [hz] at hz'
  rw [placed_at_cursor h2 hz' hm, hc]

/-- the number of bytes a line finally emits equals the space reserved for it -/
theorem reserved_eq_emitted (cfg : Cfg) (zs : Zones) (L L₂ : Labels) (ln : Line) (p : Placed)
    (zs' : Zones) (L' : Labels) (bs : List Nat)
    (h : firstPassStep cfg (zs, L) ln = .ok (p, zs', L')) (hb : lineBytes cfg L₂ p = .ok bs)
    (hbyte : isByteLine ln.stmt = true) (hpos : 0 ≤ p.size) :
    (bs.length : Int) = p.size := by
  obtain ⟨z₀, addr, size, _, hp, _, _, rfl⟩ := firstPassStep_ok h
  rw [lineBytes_length hp hb hbyte]
  exact Int.toNat_of_nonneg hpos

/-- … and for the whole run: every byte line of every program the model assembles (source lines of
    any kind, macro invocations, predefined data blocks) emits exactly the bytes that were reserved
    for it when addresses were assigned - none when a fill was given a negative count -/
theorem every_line_reserved_eq_emitted (cfg : Cfg) (files : List (List Stmt)) (es : List Emitted) (L : Labels)
    (h : assembleLines cfg files = .ok (es, L)) (e : Emitted) (he : e ∈ es) (hb : e.isByte = true) :
    (e.bytes.length : Int) = if 0 ≤ e.size then e.size else 0 :=
  assembleLines_wf h e he hb

/-- the same for a bit-packed ISA instruction statement (any operand types, field widths, alignment
    and byte order): the bytes finally emitted — with the final label values, at the final address —
    are exactly as many as `stmtSize` reserved from variant selection, which looks at no value -/
theorem instruction_reserved_eq_emitted (regs : List String) (gz : Int × Int) (env : String → Option Int) (addr : Int)
    (variants : List VariantCfg) (fs : List Form) (i : Nat) (bs : List Nat)
    (h : assembleStmt regs gz env addr variants fs = .ok (i, bs)) :
    ∃ v m, selectVariant regs gz variants fs 0 = .ok (i, v, m) ∧ bs.length = stmtSize v m :=
  assembleStmt_length h

/-- … hence two passes over the same statement (unknown forward labels first, final values second;
    or the statement moved to another address) always agree on its size -/
theorem instruction_size_pass_independent (regs : List String) (gz : Int × Int) (env env' : String → Option Int)
    (addr addr' : Int) (variants : List VariantCfg) (fs : List Form) (i i' : Nat) (bs bs' : List Nat)
    (h : assembleStmt regs gz env addr variants fs = .ok (i, bs))
    (h' : assembleStmt regs gz env' addr' variants fs = .ok (i', bs')) :
    bs.length = bs'.length ∧ i = i' := by
  obtain ⟨v, m, hs, hl⟩ := assembleStmt_length h
  obtain ⟨v', m', hs', hl'⟩ := assembleStmt_length h'
  rw [hs] at hs'
  cases hs'
  exact ⟨hl.trans hl'.symm, rfl⟩

/-- a line that is not byte-producing emits nothing and reserves nothing -/
theorem non_byte_line_empty (cfg : Cfg) (zs : Zones) (L L₂ : Labels) (ln : Line) (p : Placed)
    (zs' : Zones) (L' : Labels) (h : firstPassStep cfg (zs, L) ln = .ok (p, zs', L'))
    (hbyte : isByteLine ln.stmt = false) :
    p.size = 0 ∧ lineBytes cfg L₂ p = .ok [] := by
  obtain ⟨z₀, addr, size, _, hp, _, _, rfl⟩ := firstPassStep_ok h
  exact ⟨(placeOf_spec hp).2 hbyte, lineBytes_nonbyte hbyte⟩

/-- an address label is bound to the cursor at its definition = the address of the next line of
    that zone (by `placed_at_cursor`) -/
theorem label_bound_to_cursor (cfg : Cfg) (zs : Zones) (L : Labels) (ln : Line) (p : Placed)
    (zs' : Zones) (L' : Labels) (z : Zone) (name : String)
    (h : firstPassStep cfg (zs, L) ln = .ok (p, zs', L')) (hs : ln.stmt = .label name)
    (hz : zs.get? ln.zone = some z) :
    L.set ln.scope name z.cur = .ok L' ∧ p.addr = z.cur ∧ p.size = 0 := by
  obtain ⟨z₀, addr, size, hz₀, hp, _, hl, rfl⟩ := firstPassStep_ok h
  rw [hz] at hz₀; cases hz₀
  simp only [placeOf, hs] at hp
  cases hp
  rw [labelUpd_label hs] at hl
  exact ⟨hl, rfl, rfl⟩

/-- lines other than labels never change the label tables in the first pass -/
theorem first_pass_labels_only_labels (cfg : Cfg) (zs : Zones) (L : Labels) (ln : Line) (p : Placed)
    (zs' : Zones) (L' : Labels) (h : firstPassStep cfg (zs, L) ln = .ok (p, zs', L'))
    (hs : ∀ name, ln.stmt ≠ .label name) : L' = L := by
  obtain ⟨z₀, addr, size, _, _, _, hl, rfl⟩ := firstPassStep_ok h
  rw [labelUpd_other hs] at hl
  cases hl; rfl

/-- zero-until: zeros up to and including the target address, nothing when already past it -/
theorem zerountil_size (cfg : Cfg) (zs : Zones) (L : Labels) (ln : Line) (p : Placed) (zs' : Zones)
    (L' : Labels) (a : E) (t : Int) (z : Zone)
    (h : firstPassStep cfg (zs, L) ln = .ok (p, zs', L')) (hs : ln.stmt = .zerountil a)
    (hz : zs.get? ln.zone = some z) (ht : valueE (envOf L cfg.regs ln.scope) a = .ok t) :
    p.addr = z.cur ∧ (z.cur ≤ t → p.addr + p.size - 1 = t) ∧ (t < z.cur → p.size = 0) := by
  obtain ⟨z₀, addr, size, hz₀, hp, _, _, rfl⟩ := firstPassStep_ok h
  rw [hz] at hz₀; cases hz₀
  simp only [placeOf, hs, ht, Except.bind] at hp
  cases hp
  refine ⟨rfl, ?_, ?_⟩
  · intro hle
    show z.cur + (if t ≥ z.cur then t - z.cur + 1 else 0) - 1 = t
    rw [if_pos hle]
    omega
  · intro hlt
    exact if_neg (Int.not_le.mpr hlt)

/-- non-vacuity -/
example : alignUp 7 6 = 12 ∧ alignUp 16 16 = 16 ∧ alignUp 21 12 = 24 := by decide

end BV.C02
