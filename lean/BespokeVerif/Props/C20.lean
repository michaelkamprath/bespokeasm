/-
  Property C20 — generated editor extensions are well-formed and mirror the ISA vocabulary.
  (Partial: the vocabulary-classification half is proved on the model of the generated patterns;
  well-formedness of the JSON / YAML / plist / zip files written by Python's libraries and the
  absence of placeholders are tested by the check, not proved.)
-/
import BespokeVerif.Model.Regex
import BespokeVerif.Lemmas.Regex
namespace BV.C20
open BV

/-- a plain word: non-empty, word characters only (no regex metacharacters) -/
def PlainWord (w : String) : Prop := w.toList ≠ [] ∧ ∀ c ∈ w.toList, isWordChar c = true

/-- a literal matches exactly its own text (up to case when case-insensitive) -/
theorem matchLit_iff (ci : Bool) (s inp m rest : List Char) :
    matchLit ci s inp = some (m, rest) ↔
      inp = m ++ rest ∧ m.length = s.length ∧ ∀ i (h : i < s.length) (h' : i < m.length), charEq ci s[i] m[i] = true := by
  -- `wordEq`, the same word, read position by position
  simp only [matchLit_eq_some, wordEq, charEq_eq, beq_iff_eq, List.ext_getElem_iff, List.length_map, List.getElem_map,
    eq_comm (a := m.length)]

/-- Main statement: the generated alternation `\bw1\b|\bw2\b|…`, tried leftmost-first at the start
    of a word, takes the whole word iff the word is one of the configured names (case-folded when
    the pattern is case-insensitive) — also when names are prefixes of one another. -/
theorem wordList_takes_iff (ws : List String) (w : String) (hws : ∀ x ∈ ws, PlainWord x) (hw : PlainWord w) :
    takesWhole true (wordListRx ws) w = true ↔ ∃ x ∈ ws, x.toList.map Char.toLower = w.toList.map Char.toLower := by
  rw [takesWhole_wordList true hws hw]
  simp [wordEq_true]

theorem wordList_takes_iff_cs (ws : List String) (w : String) (hws : ∀ x ∈ ws, PlainWord x) (hw : PlainWord w) :
    takesWhole false (wordListRx ws) w = true ↔ w ∈ ws := by
  rw [takesWhole_wordList false hws hw, ← contains_iff_cs]
  simp

/-- on a word, the pattern either takes the whole word or does not match at all: an identifier
    that merely starts with, ends with or contains a configured name is never classified -/
theorem wordList_all_or_nothing (ci : Bool) (ws : List String) (w : String) (hws : ∀ x ∈ ws, PlainWord x)
    (hw : PlainWord w) :
    firstMatch ci (wordListRx ws) w.toList = none ∨ firstMatch ci (wordListRx ws) w.toList = some [] := by
  rw [firstMatch_wordList ci hws hw]
  cases ws.any (fun x => decide (wordEq ci x.toList w.toList)) <;> simp

/-- the order of the alternatives (hash order of a set in the generator) does not matter -/
theorem wordList_perm (ci : Bool) (ws ws' : List String) (w : String) (hp : ws.Perm ws')
    (hws : ∀ x ∈ ws, PlainWord x) (hw : PlainWord w) :
    takesWhole ci (wordListRx ws') w = takesWhole ci (wordListRx ws) w := by
  have hws' : ∀ x ∈ ws', PlainWord x := fun x hx => hws x (hp.mem_iff.2 hx)
  rw [takesWhole_wordList ci hws hw, takesWhole_wordList ci hws' hw, Bool.eq_iff_iff]
  simp only [List.any_eq_true, hp.mem_iff]

/-- the generator lists each vocabulary longest name first: that order is a rearrangement of the
    configured names … -/
theorem vocab_order_perm (ws : List String) : (sortByLenDesc ws).Perm ws := sortByLenDesc_perm ws

/-- … in which no name comes after a shorter one (so a name that extends another one, `st.b` / `st`,
    is tried first) -/
theorem vocab_order_longest_first (ws : List String) :
    (sortByLenDesc ws).Pairwise fun a b => b.length ≤ a.length := by
  rw [sortByLenDesc_eq]
  exact sortBy_sorted (fun a b : String => b.length ≤ a.length) (fun h => by omega) (fun h1 h2 => Nat.le_trans h2 h1) ws

/-- for plain words any order of the alternatives classifies like the vocabulary does … -/
theorem classifyOrdered_eq_spec (instrs macros regs pre : List String) (w : String)
    (h1 : ∀ x ∈ instrs, PlainWord x) (h2 : ∀ x ∈ macros, PlainWord x) (h3 : ∀ x ∈ regs, PlainWord x)
    (h4 : ∀ x ∈ pre, PlainWord x) (hw : PlainWord w) :
    classifyOrdered instrs macros regs pre w = classifySpec instrs macros regs pre w := by
  -- a rule that matches a plain word at all takes the whole word, so its two tests are the same Boolean
  rw [classifySpec_eq_any, classifyOrdered, firstMatch_isSome_wordList true h1 hw,
    firstMatch_isSome_wordList true h2 hw, firstMatch_isSome_wordList true h3 hw,
    takesWhole_wordList true h1 hw, takesWhole_wordList true h2 hw,
    takesWhole_wordList true h3 hw, takesWhole_wordList false h4 hw,
    ite_then_ite, ite_then_ite, ite_then_ite]

/-- … and so does the order the generator uses: the grammars' rule order classifies every identifier
    like the vocabulary does, provided the vocabularies are plain words.  Disjointness is not needed:
    model and spec test the classes in the same order. -/
theorem classify_eq_spec (instrs macros regs pre : List String) (w : String)
    (h1 : ∀ x ∈ instrs, PlainWord x) (h2 : ∀ x ∈ macros, PlainWord x) (h3 : ∀ x ∈ regs, PlainWord x)
    (h4 : ∀ x ∈ pre, PlainWord x) (hw : PlainWord w) :
    classify instrs macros regs pre w = classifySpec instrs macros regs pre w := by
  unfold classify
  rw [classifyOrdered_eq_spec _ _ _ _ w
    (fun x hx => h1 x ((mem_sortByLenDesc _).1 hx)) (fun x hx => h2 x ((mem_sortByLenDesc _).1 hx))
    (fun x hx => h3 x ((mem_sortByLenDesc _).1 hx)) (fun x hx => h4 x ((mem_sortByLenDesc _).1 hx)) hw]
  exact classifySpec_perm mem_sortByLenDesc mem_sortByLenDesc mem_sortByLenDesc
    mem_sortByLenDesc

/- Names with a dot are outside `PlainWord`; there the order matters: listed in configuration order
   `st` takes the first two characters of `st.b` (classifyOrdered ["st", "st.b"] [] [] [] "st.b" = none),
   listed longest first the whole name is taken (classify … = instruction).  The matcher is defined by
   well-founded recursion and does not reduce in the kernel, so this is not stated as an `example`;
   it is exercised on every run by the correspondence check (dotted names in the generated
   vocabularies, model evaluated by the compiled driver). -/

/-- non-vacuity: `ld`, `ldx` in one vocabulary; `LDX` is an instruction, `ldxx` and `l` are not -/
example : classify ["ld", "ldx"] ["mac"] ["a", "ab"] ["PK_A"] "LDX" = .instruction ∧
          classify ["ld", "ldx"] ["mac"] ["a", "ab"] ["PK_A"] "ldxx" = .none ∧
          classify ["ld", "ldx"] ["mac"] ["a", "ab"] ["PK_A"] "AB" = .register ∧
          classify ["ld", "ldx"] ["mac"] ["a", "ab"] ["PK_A"] "pk_a" = .none := by
  have hi : ∀ x ∈ ["ld", "ldx"], PlainWord x := by unfold PlainWord; decide +kernel
  have hm : ∀ x ∈ ["mac"], PlainWord x := by unfold PlainWord; decide +kernel
  have hr : ∀ x ∈ ["a", "ab"], PlainWord x := by unfold PlainWord; decide +kernel
  have hp : ∀ x ∈ ["PK_A"], PlainWord x := by unfold PlainWord; decide +kernel
  have h := fun w => classify_eq_spec _ _ _ _ w hi hm hr hp
  rw [h "LDX" (by unfold PlainWord; decide +kernel), h "ldxx" (by unfold PlainWord; decide +kernel),
    h "AB" (by unfold PlainWord; decide +kernel), h "pk_a" (by unfold PlainWord; decide +kernel)]
  -- `classifySpec` itself is not evaluated: `String.toLower` is very slow in the kernel
  simp only [classifySpec_eq_any]
  decide +kernel

end BV.C20
