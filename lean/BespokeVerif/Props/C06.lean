/-
  Property C06 — label references resolve only within their lexical scope.

  NOTE on the `_partial` theorems.  `WellKinded` constrains the file and the local table only;
  nothing keeps a `_x` / `.l` name out of the *global* table (`initLabels` puts every predefined
  constant of the configuration there without looking at its first character).  With such an entry
  the four `_partial` theorems are false without the hypothesis `GlobKinded L` (counterexamples below).
  `GlobKinded` is preserved by `Labels.set` (`set_globKinded`).
-/
import BespokeVerif.Model.Layout
import BespokeVerif.Lemmas.Scope
namespace BV.C06
open BV

/-- every table only holds names of its own kind (local names in the local table, …) -/
def WellKinded (L : Labels) : Prop :=
  (∀ e ∈ L.file, labelKind e.2.1 = 1) ∧
  (∀ e ∈ L.loc, labelKind e.2.2.1 = 2)

/-- the global table only holds global-kind names (not implied by `WellKinded`) -/
def GlobKinded (L : Labels) : Prop := ∀ e ∈ L.glob, labelKind e.1 = 0

/-- Soundness: a reference resolves only to a definition visible from the referencing line —
    a local label of the same region of the same file, a file label of the same file, or a global
    name that is not a register. -/
theorem lookup_sound (L : Labels) (regs : List String) (sc : Scope) (name : String) (v : Int)
    (h : L.lookup regs sc name = .ok v) :
    (∃ f k, sc = .loc f k ∧ (f, k, name, v) ∈ L.loc) ∨
    ((sc.fileId, name, v) ∈ L.file) ∨
    ((name, v) ∈ L.glob ∧ isRegName regs name = false) := by
  rcases lookup_eq_ok_iff.1 h with h1 | ⟨-, h2 | ⟨-, hr, h3⟩⟩
  · cases sc with
    | file f => cases h1
    | loc f k => exact .inl ⟨f, k, rfl, locGet_some_mem h1⟩
  · exact .inr (.inl (fileGet_some_mem h2))
  · exact .inr (.inr ⟨globGet_some_mem h3, hr⟩)

/-- it never resolves to a same-named label of another local region …
    (needs `GlobKinded`: counterexample below) -/
theorem no_cross_region_partial (L : Labels) (regs : List String) (f k : Nat) (name : String)
    (hk : labelKind name = 2) (hw : WellKinded L) (hg : GlobKinded L)
    (hnone : ∀ v, (f, k, name, v) ∉ L.loc) :
    ∃ e, L.lookup regs (.loc f k) name = .error e :=
  ⟨_, lookup_error (locGet_eq_none_iff.mpr hnone) (fileGet_none_of_kind hw.1 hk)
    (.inr (globGet_none_of_kind hg hk))⟩

/-- … nor of another file (needs `GlobKinded`) -/
theorem no_cross_file_partial (L : Labels) (regs : List String) (sc : Scope) (name : String)
    (hk : labelKind name = 1) (hw : WellKinded L) (hg : GlobKinded L)
    (hnone : ∀ v, (sc.fileId, name, v) ∉ L.file) :
    ∃ e, L.lookup regs sc name = .error e :=
  ⟨_, lookup_error (scGet_none_of_kind hw.2 hk) (fileGet_eq_none_iff.mpr hnone)
    (.inr (globGet_none_of_kind hg hk))⟩

/-- a local label referenced from file scope (after `.org` / `.memzone`, or before any non-local
    label) is never resolved (needs `GlobKinded`) -/
theorem local_needs_region_partial (L : Labels) (regs : List String) (f : Nat) (name : String)
    (hk : labelKind name = 2) (hw : WellKinded L) (hg : GlobKinded L) :
    ∃ e, L.lookup regs (.file f) name = .error e :=
  ⟨_, lookup_error rfl (fileGet_none_of_kind hw.1 hk) (.inr (globGet_none_of_kind hg hk))⟩

/-- Completeness: a visible definition is found (first matching entry of the proper table) -/
theorem lookup_complete_local (L : Labels) (regs : List String) (f k : Nat) (name : String) (v : Int)
    (hfirst : (L.loc.find? fun e => e.1 == f && e.2.1 == k && e.2.2.1 == name) = some (f, k, name, v)) :
    L.lookup regs (.loc f k) name = .ok v :=
  lookup_eq_ok_iff.2 (.inl (by rw [scGet, locGet, hfirst]; rfl))

/-- a register name is never given a value -/
theorem register_never_resolves (L : Labels) (regs : List String) (sc : Scope) (name : String)
    (hk : labelKind name = 0) (hw : WellKinded L) (hr : isRegName regs name = true) :
    ∃ e, L.lookup regs sc name = .error e :=
  ⟨_, lookup_error (scGet_none_of_kind hw.2 hk) (fileGet_none_of_kind hw.1 hk) (.inl hr)⟩

/-- Definitions: accepted exactly when the name is no keyword, not already defined in its scope,
    and (for a local label) an enclosing non-local label exists. -/
theorem set_ok_iff (L : Labels) (sc : Scope) (name : String) (v : Int) :
    (∃ L', L.set sc name v = .ok L') ↔
      keywords.contains (labelBase name) = false ∧
      (labelKind name = 0 → ∀ x, (name, x) ∉ L.glob) ∧
      (labelKind name = 1 → ∀ x, (sc.fileId, name, x) ∉ L.file) ∧
      (labelKind name ≥ 2 → ∃ f k, sc = .loc f k ∧ ∀ x, (f, k, name, x) ∉ L.loc) := by
  constructor
  · rintro ⟨L', h⟩
    obtain ⟨hkw, hc⟩ := set_eq_ok_iff.1 h
    refine ⟨hkw, ?_⟩
    rcases hc with ⟨hk, hn, -⟩ | ⟨hk, hn, -⟩ | ⟨hk, f, k, hsc, hn, -⟩ <;> rw [hk]
    · exact ⟨fun _ => globGet_eq_none_iff.mp hn, nofun, nofun⟩
    · exact ⟨nofun, fun _ => fileGet_eq_none_iff.mp hn, nofun⟩
    · exact ⟨nofun, nofun, fun _ => ⟨f, k, hsc, locGet_eq_none_iff.mp hn⟩⟩
  · rintro ⟨hkw, h0, h1, h2⟩
    rcases labelKind_cases name with hk | hk | hk
    · exact ⟨_, set_eq_ok_iff.2 ⟨hkw, .inl ⟨hk, globGet_eq_none_iff.mpr (h0 hk), rfl⟩⟩⟩
    · exact ⟨_, set_eq_ok_iff.2 ⟨hkw, .inr (.inl ⟨hk, fileGet_eq_none_iff.mpr (h1 hk), rfl⟩)⟩⟩
    · obtain ⟨f, k, hsc, hx⟩ := h2 (Nat.le_of_eq hk.symm)
      exact ⟨_, set_eq_ok_iff.2 ⟨hkw, .inr (.inr ⟨hk, f, k, hsc, locGet_eq_none_iff.mpr hx, rfl⟩)⟩⟩

theorem set_wellKinded {L L' : Labels} {sc : Scope} {name : String} {v : Int}
    (h : L.set sc name v = .ok L') (hw : WellKinded L) : WellKinded L' := by
  rcases (set_eq_ok_iff.1 h).2 with ⟨hk, -, rfl⟩ | ⟨hk, -, rfl⟩ | ⟨hk, f, k, -, -, rfl⟩
  · exact hw
  · exact ⟨List.forall_mem_append.2 ⟨hw.1, List.forall_mem_singleton.2 hk⟩, hw.2⟩
  · exact ⟨hw.1, List.forall_mem_append.2 ⟨hw.2, List.forall_mem_singleton.2 hk⟩⟩

/-- `GlobKinded` is an invariant of definitions, too -/
theorem set_globKinded (L L' : Labels) (sc : Scope) (name : String) (v : Int)
    (h : L.set sc name v = .ok L') (hg : GlobKinded L) : GlobKinded L' := by
  rcases (set_eq_ok_iff.1 h).2 with ⟨hk, -, rfl⟩ | ⟨hk, -, rfl⟩ | ⟨hk, f, k, -, -, rfl⟩
  · exact List.forall_mem_append.2 ⟨hg, List.forall_mem_singleton.2 hk⟩
  · exact hg
  · exact hg

/-- after its definition a name resolves, from its own scope, to the defined value … -/
theorem set_then_lookup (L L' : Labels) (regs : List String) (sc : Scope) (name : String) (v : Int)
    (h : L.set sc name v = .ok L') (hw : WellKinded L) (hr : isRegName regs name = false) :
    L'.lookup regs sc name = .ok v := by
  rw [lookup_eq_ok_iff]
  rcases (set_eq_ok_iff.1 h).2 with ⟨hk, hn, rfl⟩ | ⟨hk, hn, rfl⟩ | ⟨hk, f, k, rfl, hn, rfl⟩
  · exact .inr ⟨scGet_none_of_kind hw.2 hk, .inr ⟨fileGet_none_of_kind hw.1 hk, hr,
      by rw [globGet_append, hn, if_pos rfl]; rfl⟩⟩
  · exact .inr ⟨scGet_none_of_kind hw.2 hk, .inl (by rw [fileGet_append, hn, if_pos ⟨rfl, rfl⟩]; rfl)⟩
  · exact .inl (by rw [scGet, locGet_append, hn, if_pos ⟨rfl, rfl, rfl⟩]; rfl)

/-- … and later definitions never change what an earlier reference resolves to
    (needs `GlobKinded`: counterexample below) -/
theorem set_preserves_lookup_partial (L L' : Labels) (regs : List String) (sc sc' : Scope)
    (name name' : String) (v v' : Int) (h : L.set sc' name' v' = .ok L') (hw : WellKinded L)
    (hg : GlobKinded L)
    (hl : L.lookup regs sc name = .ok v) : L'.lookup regs sc name = .ok v := by
  have hw' := set_wellKinded h hw
  obtain ⟨mloc, mfile, mglob⟩ := set_mono h
  rw [lookup_eq_ok_iff] at hl ⊢
  -- the table that answered still does; the tables asked before it hold names of another kind
  rcases hl with h1 | ⟨-, h2 | ⟨-, hr, h3⟩⟩
  · exact .inl (mloc h1)
  · -- the kind is taken first: elaborated against `labelKind name = _`, `hw.1 _ _` makes the unifier unfold
    -- `labelKind` while the table entry is still unknown (see `scGet_none_of_kind`)
    have hk := hw.1 _ (fileGet_some_mem h2)
    exact .inr ⟨scGet_none_of_kind hw'.2 hk, .inl (mfile h2)⟩
  · have hk := hg _ (globGet_some_mem h3)
    exact .inr ⟨scGet_none_of_kind hw'.2 hk, .inr ⟨fileGet_none_of_kind hw'.1 hk, hr, mglob h3⟩⟩

/-- non-vacuity: same local name in two regions and same file name in two files -/
example :
    let L : Labels := { glob := [("g", 1)], file := [(0, "_x", 10), (1, "_x", 20)],
                        loc := [(0, 0, ".l", 100), (0, 1, ".l", 200)] }
    L.lookup [] (.loc 0 1) ".l" = .ok 200 ∧ L.lookup [] (.loc 0 0) ".l" = .ok 100 ∧
    L.lookup [] (.loc 1 5) "_x" = .ok 20 ∧ L.lookup [] (.file 0) "_x" = .ok 10 ∧
    L.lookup [] (.file 0) ".l" = .error .unresolvedLabel := by decide +kernel

/-! ### why the `_partial` theorems need `GlobKinded`

`cex` is `WellKinded` (file and local tables are empty) but holds a local-kind and a file-kind name
in the global table — exactly what `initLabels` builds from predefined constants `.l` / `_x`. -/

def cex : Labels := { glob := [(".l", 5), ("_x", 6)] }

theorem cex_wellKinded : WellKinded cex := ⟨by simp [cex], by simp [cex]⟩

/-- `no_cross_region_partial`, `no_cross_file_partial`, `local_needs_region_partial` without `GlobKinded`: all other hypotheses
    hold (no `.l` in any local region, no `_x` in any file table) and yet the reference resolves -/
example :
    labelKind ".l" = 2 ∧ labelKind "_x" = 1 ∧
    cex.lookup [] (.loc 0 0) ".l" = .ok 5 ∧      -- no_cross_region
    cex.lookup [] (.file 0) "_x" = .ok 6 ∧       -- no_cross_file
    cex.lookup [] (.file 0) ".l" = .ok 5 := by   -- local_needs_region
  decide +kernel

/-- `set_preserves_lookup_partial` without `GlobKinded`: `_x` resolves to the global entry 6; defining
    `_x` in file 0 is accepted and from then on shadows it -/
example :
    cex.lookup [] (.file 0) "_x" = .ok 6 ∧
    (cex.set (.file 0) "_x" 7).bind (fun L' => L'.lookup [] (.file 0) "_x") = .ok 7 := by
  decide +kernel

end BV.C06
