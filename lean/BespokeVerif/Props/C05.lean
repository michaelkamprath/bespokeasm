/-
  Property C05 — memory zones confine and sequence the code assigned to them.
-/
import BespokeVerif.Model.Layout
import BespokeVerif.Lemmas.Layout
import BespokeVerif.Props.C02
import BespokeVerif.Lemmas.Parse
import BespokeVerif.Lemmas.Include
namespace BV.C05
open BV

/-- cursor invariant of every zone: `start ≤ cur ≤ end + 1` -/
def ZonesInv (zs : Zones) : Prop := ∀ z ∈ zs, z.start ≤ z.cur ∧ z.cur ≤ z.stop + 1

/-- every zone lies inside GLOBAL -/
def InGlobal (zs : Zones) : Prop :=
  ∃ g, zs.get? "GLOBAL" = some g ∧ ∀ z ∈ zs, g.start ≤ z.start ∧ z.stop ≤ g.stop

/-- zone names are unique -/
def UniqueNames (zs : Zones) : Prop := (zs.map (·.name)).Nodup

theorem setCur_ok_iff (z : Zone) (v : Int) :
    (∃ z', z.setCur v = .ok z') ↔ z.start ≤ v ∧ v ≤ z.stop + 1 := by
  rw [Zone.setCur_eq]
  split
  · exact ⟨fun _ => ‹_›, fun _ => ⟨_, rfl⟩⟩
  · exact ⟨fun ⟨_, h⟩ => (nomatch h), fun h => absurd h ‹_›⟩

/-- any zone that is inverted, negative, or exceeds the address width is rejected -/
theorem mkZone_ok_iff (bits : Nat) (name : String) (s e : Int) :
    (∃ z, mkZone bits name s e = .ok z) ↔ 0 ≤ s ∧ s ≤ e ∧ e ≤ (2 : Int) ^ bits - 1 := by
  constructor
  · rintro ⟨z, h⟩
    exact (mkZone_ok h).2
  · rintro ⟨h0, h1, h2⟩
    exact ⟨_, mkZone_of_bounds h0 h1 h2⟩

theorem mkZone_fields (bits : Nat) (name : String) (s e : Int) (z : Zone) (h : mkZone bits name s e = .ok z) :
    z.name = name ∧ z.start = s ∧ z.stop = e ∧ z.cur = s := by
  obtain ⟨rfl, _⟩ := mkZone_ok h
  exact ⟨rfl, rfl, rfl, rfl⟩

/-- a zone declared in source that is not contained in GLOBAL or reuses a name is rejected -/
theorem createZone_ok_iff (bits : Nat) (zs : Zones) (name : String) (s e : Int) (g : Zone)
    (hg : zs.get? "GLOBAL" = some g) :
    (∃ zs', createZone bits zs name s e = .ok zs') ↔
      zs.get? name = none ∧ g.start ≤ s ∧ e ≤ g.stop ∧ 0 ≤ s ∧ s ≤ e ∧ e ≤ (2 : Int) ^ bits - 1 := by
  constructor
  · rintro ⟨zs', h⟩
    obtain ⟨g', z, hn, hg', h1, h2, hm, _⟩ := createZone_ok h
    rw [hg] at hg'; cases hg'
    exact ⟨hn, h1, h2, (mkZone_ok hm).2⟩
  · rintro ⟨hn, h1, h2, h3, h4, h5⟩
    unfold createZone
    rw [hn, hg, mkZone_of_bounds h3 h4 h5]
    simp only [Option.isSome_none, Bool.false_eq_true, if_false]
    rw [if_neg (Int.not_lt.mpr h1), if_neg (Int.not_lt.mpr h2)]
    exact ⟨_, rfl⟩

theorem replace_inv {zs : Zones} {n : String} {z : Zone} (hi : ZonesInv zs)
    (hz : z.start ≤ z.cur ∧ z.cur ≤ z.stop + 1) : ZonesInv (zs.replace n z) := by
  intro x hx
  rcases Zones.mem_replace hx with rfl | hm
  · exact hz
  · exact hi x hm

theorem append_inv {zs : Zones} {z : Zone} (hi : ZonesInv zs)
    (hz : z.start ≤ z.cur ∧ z.cur ≤ z.stop + 1) : ZonesInv (zs ++ [z]) :=
  List.forall_mem_append.mpr ⟨hi, List.forall_mem_singleton.mpr hz⟩

theorem mkZone_inv {bits : Nat} {name : String} {s e : Int} {z : Zone} (h : mkZone bits name s e = .ok z) :
    z.start ≤ z.cur ∧ z.cur ≤ z.stop + 1 := by
  obtain ⟨rfl, _, h1, _⟩ := mkZone_ok h
  exact ⟨Int.le_refl _, Int.le_add_one h1⟩

theorem createZone_preserves {bits : Nat} {zs zs' : Zones} {name : String} {s e : Int}
    (h : createZone bits zs name s e = .ok zs') (hi : ZonesInv zs) (hg : InGlobal zs) :
    ZonesInv zs' ∧ InGlobal zs' := by
  obtain ⟨g', z, _, hg', h1, h2, hm, rfl⟩ := createZone_ok h
  obtain ⟨g, hgg, hall⟩ := hg
  rw [hgg] at hg'; cases hg'
  refine ⟨append_inv hi (mkZone_inv hm), _, Zones.get?_append_some hgg,
    List.forall_mem_append.mpr ⟨hall, List.forall_mem_singleton.mpr ?_⟩⟩
  obtain ⟨rfl, _⟩ := mkZone_ok hm
  exact ⟨h1, h2⟩

theorem setCur_preserves_inv {zs zs' : Zones} {n : String} {v : Int} (h : zs.setCur n v = .ok zs')
    (hi : ZonesInv zs) : ZonesInv zs' := by
  intro x hx
  rcases Zones.setCur_mem h hx with hm | ⟨z, _, rfl, h1, h2⟩
  · exact hi x hm
  · exact ⟨h1, h2⟩

theorem setCur_preserves_inGlobal {zs zs' : Zones} {n : String} {v : Int} (h : zs.setCur n v = .ok zs')
    (hg : InGlobal zs) : InGlobal zs' := by
  obtain ⟨g, hgg, hall⟩ := hg
  obtain ⟨g', hg', hs, he⟩ := Zones.setCur_get?_bounds h hgg
  refine ⟨g', hg', ?_⟩
  intro x hx
  rw [hs, he]
  rcases Zones.setCur_mem h hx with hm | ⟨z, hz, rfl, _, _⟩
  · exact hall x hm
  · exact hall z (Zones.get?_mem hz)

theorem inGlobal_of_all {zs : Zones} {g : Zone} (hg : zs.get? "GLOBAL" = some g)
    (hall : (zs.all fun z => decide (g.start ≤ z.start) && decide (z.stop ≤ g.stop)) = true) : InGlobal zs := by
  refine ⟨g, hg, fun x hx => ?_⟩
  simpa using List.all_eq_true.mp hall x hx

/-- the predefined zones: all inside GLOBAL, cursors inside their zones -/
theorem initZones_inv {bits : Nat} {origin : Int} {pre : List (String × Int × Int)} {zs : Zones}
    (h : initZones bits origin pre = .ok zs) : ZonesInv zs ∧ InGlobal zs := by
  unfold initZones at h
  obtain ⟨zs1, hf, h⟩ := bind_eq_ok h
  -- every zone is created by `mkZone`, with its cursor at its start
  have h1 : ZonesInv zs1 := by
    refine foldlM_inv ZonesInv ?_ (b := []) (fun _ hz => (nomatch hz)) hf
    intro acc x acc' hacc hstep
    obtain ⟨z, hm, hstep⟩ := bind_eq_ok hstep
    split at hstep <;> cases hstep
    · exact replace_inv hacc (mkZone_inv hm)
    · exact append_inv hacc (mkZone_inv hm)
  -- with or without a GLOBAL of its own, the table goes through the same tail
  extract_lets tail at h
  obtain ⟨zs2, h2, h⟩ : ∃ zs2, ZonesInv zs2 ∧ tail zs2 = .ok zs := by
    split at h
    · exact ⟨zs1, h1, h⟩
    · obtain ⟨g0, hm, h⟩ := bind_eq_ok h
      exact ⟨_, append_inv h1 (mkZone_inv hm), h⟩
  obtain ⟨zs3, hs, h⟩ := bind_eq_ok h
  split at h
  · cases h
  · rename_i g hg
    split at h
    · cases h
      exact ⟨setCur_preserves_inv hs h2, inGlobal_of_all hg ‹_›⟩
    · cases h

/-- the first pass keeps the cursor invariant and never changes zone bounds -/
theorem firstPassStep_inv {cfg : Cfg} {zs : Zones} {L : Labels} {ln : Line} {p : Placed} {zs' : Zones}
    {L' : Labels} (h : firstPassStep cfg (zs, L) ln = .ok (p, zs', L')) (hi : ZonesInv zs) (hg : InGlobal zs) :
    ZonesInv zs' ∧ InGlobal zs' := by
  obtain ⟨z₀, addr, size, _, _, hs, _, rfl⟩ := firstPassStep_ok h
  exact ⟨setCur_preserves_inv hs hi, setCur_preserves_inGlobal hs hg⟩

/-- Confinement: every byte assembled while a zone is selected lies inside that zone's inclusive
    range … -/
theorem zone_confines (cfg : Cfg) (zs : Zones) (L : Labels) (ln : Line) (p : Placed) (zs' : Zones)
    (L' : Labels) (z : Zone) (h : firstPassStep cfg (zs, L) ln = .ok (p, zs', L'))
    (hz : zs.get? ln.zone = some z) (hi : ZonesInv zs) (hb : isByteLine ln.stmt = true) (hpos : 0 < p.size) :
    z.start ≤ p.addr ∧ p.addr + p.size - 1 ≤ z.stop := by
  obtain ⟨z₀, addr, size, hz₀, hp, hs, _, rfl⟩ := firstPassStep_ok h
  rw [hz] at hz₀; cases hz₀
  have ha : addr = z.cur := placeOf_byte_addr hb hp
  obtain ⟨z₁, hz₁, h1, h2, _⟩ := Zones.setCur_ok hs
  rw [hz] at hz₁; cases hz₁
  -- the line begins at the cursor, which the invariant keeps above the start; `setCur` checked where it ends
  exact ⟨ha ▸ (hi z (Zones.get?_mem hz)).1, Int.sub_right_le_of_le_add h2⟩

/-- … and inside GLOBAL -/
theorem zone_confines_global (cfg : Cfg) (zs : Zones) (L : Labels) (ln : Line) (p : Placed) (zs' : Zones)
    (L' : Labels) (g : Zone) (h : firstPassStep cfg (zs, L) ln = .ok (p, zs', L'))
    (hgz : zs.get? "GLOBAL" = some g) (hi : ZonesInv zs) (hg : InGlobal zs) (hu : UniqueNames zs)
    (hb : isByteLine ln.stmt = true) (hpos : 0 < p.size) :
    g.start ≤ p.addr ∧ p.addr + p.size - 1 ≤ g.stop := by
  obtain ⟨g', hg', hall⟩ := hg
  rw [hgz] at hg'; cases hg'
  obtain ⟨z, _, _, hz, _⟩ := firstPassStep_ok h
  have hc := zone_confines cfg zs L ln p zs' L' z h hz hi hb hpos
  have := hall z (Zones.get?_mem hz)
  exact ⟨Int.le_trans this.1 hc.1, Int.le_trans hc.2 this.2⟩

/-- a line that would place a byte outside its zone is rejected -/
theorem outside_rejected (cfg : Cfg) (zs : Zones) (L : Labels) (ln : Line) (z : Zone) (vals : List E) (w : Nat)
    (hz : zs.get? ln.zone = some z) (hs : ln.stmt = .data w vals)
    (hout : z.cur + (w * vals.length : Nat) > z.stop + 1) :
    ∃ e, firstPassStep cfg (zs, L) ln = .error e := by
  have hp : placeOf cfg zs L ln z = .ok (z.cur, (w * vals.length : Int)) := by simp only [placeOf, hs]
  exact ⟨_, firstPassStep_outside hz hp (Or.inr (by push_cast at hout; omega))⟩

/-- an origin given relative to a zone is offset from that zone's start; a bare origin is absolute -/
theorem org_relative (cfg : Cfg) (zs : Zones) (L : Labels) (ln : Line) (p : Placed) (zs' : Zones)
    (L' : Labels) (e : E) (zn : String) (z : Zone) (v : Int)
    (h : firstPassStep cfg (zs, L) ln = .ok (p, zs', L')) (hs : ln.stmt = .org e (some zn))
    (hz : zs.get? ln.zone = some z) (hv : valueE (envOf L cfg.regs ln.scope) e = .ok v) :
    p.addr = z.start + v := by
  obtain ⟨z₀, addr, size, hz₀, hp, _, _, rfl⟩ := firstPassStep_ok h
  rw [hz] at hz₀; cases hz₀
  exact (placeOf_org hs hv hp).1

theorem org_absolute (cfg : Cfg) (zs : Zones) (L : Labels) (ln : Line) (p : Placed) (zs' : Zones)
    (L' : Labels) (e : E) (v : Int)
    (h : firstPassStep cfg (zs, L) ln = .ok (p, zs', L')) (hs : ln.stmt = .org e none)
    (hv : valueE (envOf L cfg.regs ln.scope) e = .ok v) :
    p.addr = v := by
  obtain ⟨z₀, addr, size, hz₀, hp, _, _, rfl⟩ := firstPassStep_ok h
  exact (placeOf_org hs hv hp).1

/-- lines of other zones leave the zone called `n` as it was -/
theorem firstPass_skip {cfg : Cfg} {n : String} {mid : List Line} {l₂ : Line} {rest : List Line} {pm : List Placed}
    {p₂ : Placed} {ps : List Placed} {st : Zones × Labels} {zs : Zones} {L : Labels}
    (h : firstPass cfg (mid ++ l₂ :: rest) st = .ok (pm ++ p₂ :: ps, zs, L)) (hlen : pm.length = mid.length)
    (hmid : ∀ m ∈ mid, m.zone ≠ n) :
    ∃ zs1 L1 zs2 L2, firstPassStep cfg (zs1, L1) l₂ = .ok (p₂, zs2, L2) ∧ zs1.get? n = st.1.get? n := by
  obtain ⟨out₁, zs1, L1, out₂, ha, hb, he⟩ := firstPass_append_ok h
  obtain ⟨q, zs2, L2, ps', hstep, _, rfl⟩ := firstPass_cons_ok hb
  have hlen₁ := firstPass_length mid st out₁ zs1 L1 ha
  obtain ⟨rfl, hq⟩ := List.append_inj he (hlen.trans hlen₁.symm)
  cases hq
  refine ⟨zs1, L1, zs2, L2, hstep, ?_⟩
  refine firstPass_invariant (fun zs _ => zs.get? n = st.1.get? n) ?_ ha rfl
  intro m hm zs L p zs' L' hI hs
  rw [← hI]
  exact (C02.cursor_after hs).2 n (Ne.symm (hmid m hm))

/-- Sequencing: separate stretches of source assigned to the same zone are laid out consecutively
    as if concatenated — lines of other zones in between do not matter. -/
theorem zone_concatenates (cfg : Cfg) (mid : List Line) (l₁ l₂ : Line) (st : Zones × Labels)
    (p₁ p₂ : Placed) (pm ps : List Placed) (rest : List Line) (zs : Zones) (L : Labels)
    (h : firstPass cfg (l₁ :: mid ++ l₂ :: rest) st = .ok (p₁ :: pm ++ p₂ :: ps, zs, L))
    (hlen : pm.length = mid.length)
    (hz : l₁.zone = l₂.zone) (hmid : ∀ m ∈ mid, m.zone ≠ l₁.zone)
    (hm : C02.movesCursor l₂.stmt = false) :
    p₂.addr = p₁.addr + p₁.size := by
  obtain ⟨q₁, zs1, L1, ps1, h1, hrest, he⟩ := firstPass_cons_ok h
  cases he
  obtain ⟨⟨z', hz', hc⟩, _⟩ := C02.cursor_after h1
  obtain ⟨zsA, LA, zsB, LB, hstep, hget⟩ :=
    firstPass_skip hrest hlen hmid
  rw [hz'] at hget
  rw [hz] at hget
  rw [C02.placed_at_cursor hstep hget hm, hc]

/-- the first pass never changes the bounds of the zone found under a name -/
theorem firstPass_bounds (cfg : Cfg) : ∀ (lines : List Line) (st : Zones × Labels) (out : List Placed) (zsF : Zones) (L : Labels),
    firstPass cfg lines st = .ok (out, zsF, L) → ∀ (m : String) (g : Zone), st.1.get? m = some g →
    ∃ g', zsF.get? m = some g' ∧ g'.start = g.start ∧ g'.stop = g.stop := by
  intro lines st out zsF L h m g hg
  refine firstPass_invariant (fun zs _ => ∃ g', zs.get? m = some g' ∧ g'.start = g.start ∧ g'.stop = g.stop)
    ?_ h ⟨g, hg, rfl, rfl⟩
  intro ln _ zs L p zs' L' ⟨g₁, hg₁, hs₁, he₁⟩ hstep
  obtain ⟨_, _, _, _, _, hs, _, _⟩ := firstPassStep_ok hstep
  obtain ⟨g₂, hg₂, hs₂, he₂⟩ := Zones.setCur_get?_bounds hs hg₁
  exact ⟨g₂, hg₂, hs₂.trans hs₁, he₂.trans he₁⟩

/-- Confinement for a whole program: starting from any zone table whose cursors lie inside their zones
    (`initZones_inv`, `createZone_preserves`), every byte-producing line of every length the first pass
    places lies inside the inclusive range of the zone it was assembled in - the bounds that zone has at
    the end, which are the bounds it always had. -/
theorem firstPass_confines (cfg : Cfg) : ∀ (lines : List Line) (st : Zones × Labels) (out : List Placed) (zsF : Zones) (L : Labels),
    firstPass cfg lines st = .ok (out, zsF, L) → ZonesInv st.1 →
    ∀ p ∈ out, isByteLine p.line.stmt = true → 0 < p.size →
      ∃ z, zsF.get? p.line.zone = some z ∧ z.start ≤ p.addr ∧ p.addr + p.size - 1 ≤ z.stop := by
  intro lines
  induction lines with
  | nil =>
    intro st out zsF L h _
    rw [firstPass] at h
    cases h
    exact List.forall_mem_nil _
  | cons ln rest ih =>
    intro st out zsF L h hi
    obtain ⟨p1, zs1, L1, ps, h1, h2, rfl⟩ := firstPass_cons_ok h
    obtain ⟨z₀, addr, size, hz₀, _, hs, _, rfl⟩ := firstPassStep_ok (zs := st.1) (L := st.2) h1
    refine List.forall_mem_cons.mpr ⟨fun hb hpos => ?_, ih (zs1, L1) ps zsF L h2 (setCur_preserves_inv hs hi)⟩
    -- the line is confined when it is placed, and the bounds of its zone never change afterwards
    have hc := zone_confines cfg st.1 st.2 ln _ zs1 L1 z₀ h1 hz₀ hi hb hpos
    obtain ⟨g1, hg1, hs1, he1⟩ := Zones.setCur_get?_bounds hs hz₀
    obtain ⟨g', hg', hs', he'⟩ := firstPass_bounds cfg rest (zs1, L1) ps zsF L h2 ln.zone g1 hg1
    exact ⟨g', hg', by rw [hs', hs1]; exact hc.1, by rw [he', he1]; exact hc.2⟩

/-- the invariants survive the whole first pass -/
theorem firstPass_inv (cfg : Cfg) : ∀ (lines : List Line) (st : Zones × Labels) (out : List Placed) (zsF : Zones) (L : Labels),
    firstPass cfg lines st = .ok (out, zsF, L) → ZonesInv st.1 → InGlobal st.1 → ZonesInv zsF ∧ InGlobal zsF :=
  fun _ _ _ _ _ h hi hg =>
    firstPass_invariant (fun zs _ => ZonesInv zs ∧ InGlobal zs)
      (fun _ _ _ _ _ _ _ hI hs => firstPassStep_inv hs hI.1 hI.2) h ⟨hi, hg⟩

/-- End to end, no hypothesis on the zone table: for every program the model places (any ISA zone
    configuration that `initZones` accepts, any zones the source creates, any includes), every
    byte-producing source line of positive size lies inside the inclusive range of the zone it was
    assembled in AND inside GLOBAL. (`sorted` additionally holds the predefined data blocks of the ISA
    configuration, which are placed at their configured addresses without a zone check.) -/
theorem program_lines_confined (cfg : Cfg) (files : List (List Stmt)) (sorted : List Placed) (L : Labels)
    (h : assemblePlaced cfg files = .ok (sorted, L)) :
    ∃ (placed : List Placed) (zsF : Zones) (g : Zone), sorted = sortByAddr (placed ++ predefinedLines cfg) ∧
      zsF.get? "GLOBAL" = some g ∧
      ∀ p ∈ placed, isByteLine p.line.stmt = true → 0 < p.size →
        ∃ z, zsF.get? p.line.zone = some z ∧ z.start ≤ p.addr ∧ p.addr + p.size - 1 ≤ z.stop ∧
          g.start ≤ p.addr ∧ p.addr + p.size - 1 ≤ g.stop := by
  obtain ⟨L0, zs0, lines, st, placed, zsF, _, hz, hr, hf, rfl⟩ := assemblePlaced_ok h
  have hinit := initZones_inv hz
  have hread : ZonesInv st.zones ∧ InGlobal st.zones :=
    (readFile_reads hr).2.zones (fun zs => ZonesInv zs ∧ InGlobal zs)
      (fun hc hp => createZone_preserves hc hp.1 hp.2) hinit
  obtain ⟨hiF, hgF⟩ := firstPass_inv cfg lines _ placed zsF L hf hread.1 hread.2
  obtain ⟨g, hgg, hall⟩ := hgF
  refine ⟨placed, zsF, g, rfl, hgg, ?_⟩
  intro p hp hb hpos
  obtain ⟨z, hzz, h1, h2⟩ := firstPass_confines cfg lines _ placed zsF L hf hread.1 p hp hb hpos
  have := hall z (Zones.get?_mem hzz)
  exact ⟨z, hzz, h1, h2, Int.le_trans this.1 h1, Int.le_trans h2 this.2⟩

/-! ### the text level: a zone / origin directive and what follows it on the same source line

The layout theorems above speak about a list of statements.  The front end (`Model/Parse.lean`) turns
a source line into such a list; these two theorems say that a statement written behind a zone or
origin directive on the same line is simply the next statement of that list - so everything proved
about "the statement after a zone switch" (it is placed at the selected zone's cursor, confined to
that zone) holds for it as it does for a statement on the next line.  (The real code gave such a
statement the zone of the start of the line: finding D38, fixed.) -/

/-- `.memzone NAME rest…` (directive name in any letter case): the zone switch, then the statements
    of the rest of the line -/
theorem text_zone_directive_line (cfg : PCfg) (f : Nat) (d z rest : List Char)
    (hd : NameText d) (hdot : d.head? = some '.') (hlow : lowerS d = ".memzone")
    (hz : z ≠ [] ∧ ∀ c ∈ z, isWordChar c = true) (hr : ∀ c, rest.head? = some c → isWordChar c = false) :
    parseStmts cfg (f + 1) (d ++ ' ' :: z ++ rest) =
      (do let more ← parseStmts cfg f rest; .ok (.memzone (String.ofList z) :: more)) := by
  have ht : ptrim (d ++ ' ' :: z ++ rest) = d ++ ' ' :: (z ++ ptrimR rest) := by
    rw [List.append_assoc, hd.solid.ptrim_append]
    exact congrArg (d ++ ·) ((solid_of_word hz).ptrimR_append [' '] rest)
  rw [parseStmts_directive cfg f ht hd hdot (by intro c hc; cases hc; decide), hlow,
    directive_memzone cfg _ hz fun c hc => hr c (head_ptrimR hc), parseStmts_ptrimR]

/-- `.org ARG label: rest…`: the origin directive with exactly `ARG` as its argument, then the
    statements of the rest of the line, beginning with the label -/
theorem text_origin_label_line (cfg : PCfg) (f : Nat) (d own after : List Char)
    (hd : NameText d) (hdot : d.head? = some '.') (hlow : lowerS d = ".org")
    (hown : ArgText own) (hafter : startsLabelDef (ptrimL after) = true) (hrt : ptrimR after = after) :
    parseStmts cfg (f + 1) (d ++ ' ' :: own ++ ' ' :: after) =
      (do let e ← parseExprText own
          let more ← parseStmts cfg f after
          .ok (.org e none :: more)) := by
  have hane : after ≠ [] := by
    rintro rfl; simp [ptrimL, startsLabelDef] at hafter
  have ht : ptrim (d ++ ' ' :: own ++ ' ' :: after) = d ++ (' ' :: own ++ ' ' :: after) := by
    have h := hown.solid.ptrimR_append [' '] (' ' :: after)
    rw [ptrimR_cons, hrt] at h
    rw [List.append_assoc, hd.solid.ptrim_append]
    simpa [hane] using h
  have hq : own.getLast? ≠ some '"' := fun h => (hown.2 _ (List.mem_of_getLast? h)).2.2 rfl
  rw [parseStmts_directive cfg f ht hd hdot (by intro c hc; cases hc; decide), hlow,
    directive_org cfg _ (cutAtLabelDef_arg hown hafter) hown.solid hq]

-- the hypotheses are satisfiable: `.MemZone ZONE1 .byte 1`, `.ORG $20 next: nop`
example : NameText ".MemZone".toList ∧ ".MemZone".toList.head? = some '.' ∧ lowerS ".MemZone".toList = ".memzone" ∧
    ("ZONE1".toList ≠ [] ∧ ∀ c ∈ "ZONE1".toList, isWordChar c = true) ∧
    (∀ c, " .byte 1".toList.head? = some c → isWordChar c = false) := by
  unfold NameText
  rw [lowerS_eq]
  decide +kernel
example : NameText ".ORG".toList ∧ lowerS ".ORG".toList = ".org" ∧ ArgText "$20".toList ∧
    startsLabelDef (ptrimL "next: nop".toList) = true ∧ ptrimR "next: nop".toList = "next: nop".toList := by
  unfold NameText ArgText
  rw [lowerS_eq]
  decide +kernel

end BV.C05
