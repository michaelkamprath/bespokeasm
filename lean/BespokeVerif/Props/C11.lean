/-
  Property C11 — data and fill directives emit exactly the bytes they describe.
-/
import BespokeVerif.Model.Layout
import BespokeVerif.Lemmas.Data
import BespokeVerif.Model.Split
import BespokeVerif.Lemmas.Split
namespace BV.C11
open BV SplitLemmas

/-- a value emits exactly `w` bytes -/
theorem wordBytes_length (w : Nat) (little : Bool) (v : Int) : (wordBytes w little v).length = w :=
  BV.wordBytes_length w little v

/-- … namely the value reduced modulo `2^(8w)`: negative and oversized values wrap -/
theorem wordBytes_mod (w : Nat) (little : Bool) (v : Int) :
    wordBytes w little v = wordBytes w little (v % (2 : Int) ^ (8 * w)) := by
  have : (List.range w).map (byteAt v) = (List.range w).map (byteAt (v % (2 : Int) ^ (8 * w))) := by
    apply List.map_congr_left
    intro j hj
    exact (byteAt_mod v (List.mem_range.mp hj)).symm
  unfold wordBytes
  simp only [this]

/-- little endian: byte `j` is byte `j` of the value; big endian: byte `j` is byte `w-1-j` -/
theorem wordBytes_little (w : Nat) (v : Int) (j : Nat) (hj : j < w) :
    (wordBytes w true v)[j]? = some (byteAt v j) := by
  simp [wordBytes, hj]
theorem wordBytes_big (w : Nat) (v : Int) (j : Nat) (hj : j < w) :
    (wordBytes w false v)[j]? = some (byteAt v (w - 1 - j)) := by
  simp [wordBytes, hj]

/-- the bytes are the base-256 digits of `v mod 2^(8w)` -/
theorem wordBytes_value (w : Nat) (v : Int) :
    ((wordBytes w true v).foldr (fun (b : Nat) (acc : Int) => (b : Int) + 256 * acc) (0 : Int)) = v % (2 : Int) ^ (8 * w) := by
  rw [wordBytes, if_pos rfl]
  induction w generalizing v with
  | zero => rw [Nat.mul_zero, Int.pow_zero, Int.emod_one]; rfl
  | succ w ih =>
    -- the lowest byte, then the bytes of `v / 256`
    have hs : byteAt v ∘ Nat.succ = byteAt (v / 256) := funext (byteAt_succ v)
    rw [List.range_succ_eq_map, List.map_cons, List.foldr_cons, List.map_map, hs, ih, byteAt_cast,
      Int.pow_zero, Int.ediv_one, Nat.mul_succ, Nat.add_comm, Int.pow_add]
    exact (emod_mul v 256 _ (by decide)).symm

/-- a data directive emits `w` bytes per listed value, in list order -/
theorem data_bytes (cfg : Cfg) (L : Labels) (p : Placed) (w : Nat) (vals : List E) (vs : List Int)
    (hs : p.line.stmt = .data w vals)
    (hv : vals.mapM (valueE (envOf L cfg.regs p.line.scope)) = .ok vs) :
    lineBytes cfg L p = .ok (vs.flatMap (wordBytes w cfg.little)) := by
  unfold lineBytes
  simp only [hs, hv]
  rfl

theorem data_length (cfg : Cfg) (L : Labels) (p : Placed) (w : Nat) (vals : List E) (bs : List Nat)
    (hs : p.line.stmt = .data w vals) (hb : lineBytes cfg L p = .ok bs) : bs.length = w * vals.length := by
  unfold lineBytes at hb
  simp only [hs] at hb
  obtain ⟨vs, hv, hb⟩ := bind_eq_ok hb
  cases hb
  rw [flatMap_wordBytes_length, mapM_ok_length hv]

/-- `.fill n, v` emits `n` copies of the low byte of `v` -/
theorem fill_bytes (cfg : Cfg) (L : Labels) (p : Placed) (cnt val : E) (v : Int)
    (hs : p.line.stmt = .fill cnt val) (hv : valueE (envOf L cfg.regs p.line.scope) val = .ok v) :
    lineBytes cfg L p = .ok (List.replicate p.size.toNat ((v % 256).toNat)) := by
  unfold lineBytes
  simp only [hs, hv, ← byteAt_zero]
  rfl

/-- `.zerountil` emits zeros only -/
theorem zerountil_bytes (cfg : Cfg) (L : Labels) (p : Placed) (a : E) (hs : p.line.stmt = .zerountil a) :
    lineBytes cfg L p = .ok (List.replicate p.size.toNat 0) := by
  unfold lineBytes
  simp only [hs]

/-- a quoted string emits one byte per character after escape processing, then the terminator -/
theorem str_bytes (cfg : Cfg) (L : Labels) {p : Placed} {raw : String} {term : Option Nat}
    (hs : p.line.stmt = .str raw term) :
    lineBytes cfg L p = .ok ((unescape raw.toList).map (· % 256) ++ term.toList.map (· % 256)) := by
  unfold lineBytes
  simp only [hs]

/-- the terminator of `.cstr` / `.asciiz` is appended always and exactly once - also when the string itself already
    ends with the terminator value (`.cstr "abc\\0"` is five bytes) -/
theorem cstr_terminator_always (cfg : Cfg) (L : Labels) (p : Placed) (raw : String) (t : Nat)
    (hs : p.line.stmt = .str raw (some t)) :
    ∃ bs, lineBytes cfg L p = .ok bs ∧ bs.length = (unescape raw.toList).length + 1 ∧ bs.getLast? = some (t % 256) ∧
      bs.dropLast = (unescape raw.toList).map (· % 256) := by
  refine ⟨_, str_bytes cfg L hs, ?_, ?_, ?_⟩ <;> simp

/-- escape processing: text without a backslash is taken character by character -/
theorem unescape_plain (cs : List Char) (h : ∀ c ∈ cs, c ≠ '\\') : unescape cs = cs.map Char.toNat := by
  induction cs with
  | nil => rw [unescape]; rfl
  | cons c rest ih =>
    rw [unescape_cons_of_ne (h c List.mem_cons_self), ih fun x hx => h x (List.mem_cons_of_mem _ hx)]
    rfl

theorem unescape_simple_escapes (rest : List Char) :
    unescape ('\\' :: 'n' :: rest) = 10 :: unescape rest ∧
    unescape ('\\' :: 't' :: rest) = 9 :: unescape rest ∧
    unescape ('\\' :: 'r' :: rest) = 13 :: unescape rest ∧
    unescape ('\\' :: '\\' :: rest) = 92 :: unescape rest ∧
    unescape ('\\' :: '"' :: rest) = 34 :: unescape rest ∧
    unescape ('\\' :: '\'' :: rest) = 39 :: unescape rest := by
  simp only [unescape, and_self]

theorem unescape_hex (h1 h2 : Char) (rest : List Char) (hh1 : isHexDigit h1 = true) (hh2 : isHexDigit h2 = true) :
    unescape ('\\' :: 'x' :: h1 :: h2 :: rest) = (hexVal h1 * 16 + hexVal h2) :: unescape rest := by
  simp only [unescape, hh1, hh2, Bool.and_self, if_true]

/-- the number of emitted characters never exceeds the number of source characters -/
theorem unescape_length_le (cs : List Char) : (unescape cs).length ≤ cs.length := by
  fun_induction unescape cs
  -- `not_and` turns a failed test `¬(oct d2 && oct d3) = true` into `oct d2 = true → oct d3 = false`,
  -- the form in which it still applies once `oct d2` has been rewritten
  all_goals simp only [List.length_cons, List.length_nil, Bool.and_eq_true, not_and, Bool.not_eq_true] at *
  -- the case hypotheses decide the `if`s that are left in the goal; the rest is counting
  all_goals try simp only [*, if_true, if_false, false_and, and_true, and_false, Bool.false_eq_true,
    List.length_cons, List.length_nil]
  all_goals omega

/-- non-vacuity -/
example : wordBytes 2 false (-2) = [255, 254] ∧ wordBytes 2 true 0x12345 = [0x45, 0x23] := by decide +kernel
example : unescape "a\\n\\x41\\0;\\\"".toList = [97, 10, 65, 0, 59, 34] := by decide +kernel

/-! ## value lists: where one listed value ends and the next begins (`split_on_commas`) -/

/-- splitting loses nothing: the items joined by commas are the text -/
theorem splitCommas_join (s : List Char) : joinCommas (splitCommas s) = s := by
  simp [splitCommas, join_aux]

/-- a text without quote characters is split at every comma, exactly like `str.split(',')` -/
theorem splitCommas_no_quote (s : List Char) (h : '\'' ∉ s) : splitCommas s = splitPlain s := by
  rw [splitCommas, no_quote_aux [] h]
  exact consHead_nil (splitPlain_ne_nil s)

/-- Main statement: a list of well-tokenised values (quoted characters — the comma `','` and the
    quote included — and other characters that are neither comma nor quote), written with commas
    between them, is split into exactly those values. -/
theorem splitCommas_items (items : List (List QSeg)) (hne : items ≠ [])
    (hok : ∀ it ∈ items, ∀ sg ∈ it, sg.ok = true) :
    splitCommas (joinCommas (items.map renderItem)) = items.map renderItem := by
  rw [splitCommas, items_aux hne hok []]
  exact consHead_nil (by simpa using hne)

/-- the number of values is one more than the number of separating commas -/
theorem splitCommas_length (items : List (List QSeg)) (hne : items ≠ [])
    (hok : ∀ it ∈ items, ∀ sg ∈ it, sg.ok = true) :
    (splitCommas (joinCommas (items.map renderItem))).length = items.length := by
  rw [splitCommas_items items hne hok, List.length_map]

/-- a quoted comma is one value, not two (the defect repaired in /repo: D35) -/
example : splitCommas "1, ',', 2".toList = ["1".toList, " ','".toList, " 2".toList] ∧
          splitPlain "1, ',', 2".toList = ["1".toList, " '".toList, "'".toList, " 2".toList] := by
  decide +kernel

end BV.C11
