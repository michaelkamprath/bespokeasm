/-
  Property C12 — configured operand value constraints are enforced, not silently bypassed.
-/
import BespokeVerif.Model.Instr
import BespokeVerif.Lemmas.Bits
import BespokeVerif.Lemmas.Constraint
namespace BV.C12
open BV

/-- Decision logic stated outright: a constrained value is accepted iff it satisfies the
    configured constraint, and then the documented value is what is emitted. -/
theorem resolve_ok_iff (s : ValSrc) (addr size : Int) (w : Nat) (v : Int) :
    s.resolve addr size w = .ok v ↔ s.Satisfies addr size w ∧ v = s.emitted addr size w := by
  rw [ValSrc.resolve_eq]; split <;> simp [*, eq_comm]

theorem resolve_error_iff (s : ValSrc) (addr size : Int) (w : Nat) :
    (∃ e, s.resolve addr size w = .error e) ↔ ¬ s.Satisfies addr size w := by
  rw [ValSrc.resolve_eq]; split <;> simp [*]

theorem resolve_error_kind (s : ValSrc) (addr size : Int) (w : Nat) (e : Err)
    (h : s.resolve addr size w = .error e) : e = .constraint := by
  rw [ValSrc.resolve_eq] at h; split at h <;> cases h; rfl

/-- min/max (bit-index style operands): exactly the closed interval is accepted -/
theorem ranged_accept_iff (v lo hi : Int) (addr size : Int) (w : Nat) :
    (ValSrc.ranged v (some lo) (some hi)).resolve addr size w = .ok v ↔ lo ≤ v ∧ v ≤ hi := by
  rw [resolve_ok_iff]
  simp only [ValSrc.Satisfies, ValSrc.emitted, leOpt, geOpt, and_true]
  exact And.comm

/-- zone membership: exactly the inclusive zone range is accepted -/
theorem zone_accept_iff (v zs ze : Int) (addr size : Int) (w : Nat) :
    (ValSrc.inZone v zs ze).resolve addr size w = .ok v ↔ zs ≤ v ∧ v ≤ ze := by
  rw [resolve_ok_iff]
  simp only [ValSrc.Satisfies, ValSrc.emitted, and_true]

/-- numeric enumeration: accepted iff the value is a key; the mapped value is emitted -/
theorem enum_accept_iff (v x : Int) (d : List (Int × Int)) (addr size : Int) (w : Nat) :
    (ValSrc.enum v d).resolve addr size w = .ok x ↔ lookupInt d v = some x := by
  simp only [ValSrc.resolve]
  cases lookupInt d v <;> simp

theorem enum_reject_iff (v : Int) (d : List (Int × Int)) (addr size : Int) (w : Nat) :
    (∃ e, (ValSrc.enum v d).resolve addr size w = .error e) ↔ v ∉ d.map Prod.fst := by
  rw [resolve_error_iff]
  exact Iff.rfl

/-- relative offsets are measured from the instruction's address, or from its last byte when so
    configured -/
theorem rel_offset_from_start (t addr size zs ze : Int) (w : Nat) (h1 : zs ≤ t) (h2 : t ≤ ze) :
    (ValSrc.rel t false none none zs ze).resolve addr size w = .ok (t - addr) := by
  rw [resolve_ok_iff]
  simp only [ValSrc.Satisfies, ValSrc.emitted, leOpt, geOpt, relBase, and_true]
  exact ⟨⟨h1, h2⟩, by simp⟩

theorem rel_offset_from_end (t addr size zs ze : Int) (w : Nat) (h1 : zs ≤ t) (h2 : t ≤ ze) :
    (ValSrc.rel t true none none zs ze).resolve addr size w = .ok (t - (addr + size - 1)) := by
  rw [resolve_ok_iff]
  simp only [ValSrc.Satisfies, ValSrc.emitted, leOpt, geOpt, relBase, and_true]
  exact ⟨⟨h1, h2⟩, by simp⟩

/-- the configured limits of a relative-address operand are tested on the very value the field encodes - the
    distance from the instruction's first byte, or from its last byte when so configured - not on another one -/
theorem rel_limits_on_encoded_value (t addr size zs ze lo hi : Int) (w : Nat) (fromEnd : Bool) (v : Int) :
    (ValSrc.rel t fromEnd (some lo) (some hi) zs ze).resolve addr size w = .ok v ↔
      (zs ≤ t ∧ t ≤ ze ∧ lo ≤ v ∧ v ≤ hi ∧ v = t - (if fromEnd then addr + size - 1 else addr)) := by
  rw [resolve_ok_iff]
  simp only [ValSrc.Satisfies, ValSrc.emitted, leOpt, geOpt, relBase]
  constructor
  · rintro ⟨⟨h1, h2, h3, h4⟩, rfl⟩; exact ⟨h1, h2, h4, h3, rfl⟩
  · rintro ⟨h1, h2, h3, h4, rfl⟩; exact ⟨⟨h1, h2, h4, h3⟩, rfl⟩
example : (ValSrc.rel 128 true (some (-128)) (some 127) 0 65535).resolve 0 2 8 = .ok 127 := by decide
example : (ValSrc.rel 48 true (some (-16)) (some 127) 0 65535).resolve 64 2 8 ≠ .ok (-17) := by decide

/-- sliced address: accepted iff in zone and sharing the high-order bits with the instruction's own
    address; the low `w` bits are emitted and always fit the field -/
theorem sliced_accept_iff (v zs ze addr size : Int) (w : Nat) :
    (∃ x, (ValSrc.sliced v zs ze).resolve addr size w = .ok x) ↔
      zs ≤ v ∧ v ≤ ze ∧ addr / (2 : Int) ^ w = v / (2 : Int) ^ w := by
  constructor
  · rintro ⟨x, hx⟩
    exact ((resolve_ok_iff _ _ _ _ _).mp hx).1
  · intro h
    exact ⟨_, (resolve_ok_iff _ _ _ _ _).mpr ⟨h, rfl⟩⟩

theorem sliced_emitted_fits (v zs ze addr size : Int) (w : Nat) (hw : 1 ≤ w) :
    Fits ((ValSrc.sliced v zs ze).emitted addr size w) w := by
  have _ := hw
  exact sliced_fits v w

/-- width fit: the boundaries of the signed-or-unsigned range -/
theorem fits_iff (v : Int) (n : Nat) (hn : 1 ≤ n) :
    Fits v n ↔ -((2 : Int) ^ (n - 1)) ≤ v ∧ v ≤ (2 : Int) ^ n - 1 := by
  unfold Fits
  have : n ≠ 0 := Nat.ne_of_gt hn
  simp only [this, if_false]
  omega

theorem fits_boundaries (n : Nat) (hn : 1 ≤ n) :
    Fits (-((2 : Int) ^ (n - 1))) n ∧ Fits ((2 : Int) ^ n - 1) n
      ∧ ¬ Fits (-((2 : Int) ^ (n - 1)) - 1) n ∧ ¬ Fits ((2 : Int) ^ n) n := by
  have hp : (2 : Int) ^ n = 2 * 2 ^ (n - 1) := by rw [← Int.pow_succ', Nat.sub_add_cancel hn]
  have hq : (0 : Int) < (2 : Int) ^ (n - 1) := Int.pow_pos (by decide)
  simp only [fits_iff _ n hn]
  omega

/-- no field (opcode, suffix, operand codes and arguments) has width 0; where that comes from: `pushBit_abs`
    (Lemmas/Bits) -/
def allSizesPos (ops : List SrcOp) (opcode : Field) (sfx : Option Field) : Prop :=
  1 ≤ opcode.size ∧ (∀ s ∈ sfx.toList, 1 ≤ s.size) ∧
  ∀ o ∈ ops, (∀ f p, o.code = some (f, p) → 1 ≤ f.size) ∧ (∀ f, o.arg = some f → 1 ≤ f.size)

/-- Whole statement: it is assembled iff every constraint is satisfied and every value fits its
    field, and then the emitted bytes are the specified ones (accept direction of C12 composed
    with C01). -/
theorem encodeInstr_ok_iff (addr : Int) (ops : List SrcOp) (opcode : Field) (sfx : Option Field)
    (ra rc : Bool) (hpos : allSizesPos ops opcode sfx) (bs : List Nat) :
    encodeInstr addr ops opcode sfx ra rc = .ok (some bs) ↔
      specEncodeInstr addr ops opcode sfx ra rc = some bs := by
  rw [encodeInstr_spec hpos.1 hpos.2.1 hpos.2.2]
  cases specEncodeInstr addr ops opcode sfx ra rc <;> simp

/-- … and it is rejected (never silently assembled) otherwise. -/
theorem encodeInstr_error_iff (addr : Int) (ops : List SrcOp) (opcode : Field) (sfx : Option Field)
    (ra rc : Bool) (hpos : allSizesPos ops opcode sfx) :
    (∃ e, encodeInstr addr ops opcode sfx ra rc = .error e) ↔
      specEncodeInstr addr ops opcode sfx ra rc = none := by
  rw [encodeInstr_spec hpos.1 hpos.2.1 hpos.2.2]
  cases specEncodeInstr addr ops opcode sfx ra rc <;> simp

/-- the length-mismatch branch of `get_bytes` is unreachable for well-formed field lists -/
theorem encodeInstr_never_none (addr : Int) (ops : List SrcOp) (opcode : Field) (sfx : Option Field)
    (ra rc : Bool) (hpos : allSizesPos ops opcode sfx) :
    encodeInstr addr ops opcode sfx ra rc ≠ .ok none := by
  rw [encodeInstr_spec hpos.1 hpos.2.1 hpos.2.2]
  cases specEncodeInstr addr ops opcode sfx ra rc <;> simp

/-- reserved size = emitted size for an assembled statement (feeds C02) -/
theorem encodeInstr_length (addr : Int) (ops : List SrcOp) (opcode : Field) (sfx : Option Field)
    (ra rc : Bool) (hpos : allSizesPos ops opcode sfx) (bs : List Nat)
    (h : encodeInstr addr ops opcode sfx ra rc = .ok (some bs)) :
    bs.length = instrSize ops opcode sfx ra rc :=
  have _ := hpos
  BV.encodeInstr_length h

/-- No emitted bit depends on the statement's address unless an operand is address-relative or
    sliced (C01, last sentence). -/
def SrcField.addrFree (f : SrcField) : Prop :=
  match f.src with
  | .rel .. => False
  | .sliced .. => False
  | _ => True

def SrcOp.addrFree (o : SrcOp) : Prop :=
  (∀ f p, o.code = some (f, p) → SrcField.addrFree f) ∧ (∀ f, o.arg = some f → SrcField.addrFree f)

theorem encodeInstr_addr_irrelevant (a₁ a₂ : Int) (ops : List SrcOp) (opcode : Field)
    (sfx : Option Field) (ra rc : Bool) (h : ∀ o ∈ ops, SrcOp.addrFree o) :
    encodeInstr a₁ ops opcode sfx ra rc = encodeInstr a₂ ops opcode sfx ra rc := by
  have hf : ∀ {f : SrcField}, SrcField.addrFree f → ∀ {size : Int},
      f.resolveField a₁ size = f.resolveField a₂ size := by
    rintro ⟨src, _, _, _⟩ hf size
    cases src with
    | rel => exact hf.elim
    | sliced => exact hf.elim
    | _ => rfl
  unfold encodeInstr
  simp only
  rw [resolveOps_congr fun o ho =>
    SrcOp.resolve_congr (fun f p hc => hf ((h o ho).1 f p hc))
      (fun f ha => hf ((h o ho).2 f ha))]

/-- non-vacuity: a statement with a relative (from end) 12-bit little-endian argument and a 2-bit
    prefix code is assembled -/
example : encodeInstr 5
    [{ code := none, arg := some { src := .rel 20 true none none 0 255, size := 12, align := false, little := true } },
     { code := some ({ src := .plain 3, size := 2, align := false, little := false }, .prefix), arg := none }]
    { value := 10, size := 4, align := false, little := false } none false false
    = .ok (some [232, 52, 0]) := by decide +kernel

end BV.C12
