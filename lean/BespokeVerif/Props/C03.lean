/-
  Property C03 — the binary image is a faithful window onto the assembled memory map.
-/
import BespokeVerif.Model.Layout
import BespokeVerif.Lemmas.Image
import BespokeVerif.Lemmas.ImageFast
namespace BV.C03
open BV

/-- an unmuted byte line covers address `a` -/
def Covers (e : Emitted) (a : Int) : Prop :=
  e.isByte = true ∧ e.muted = false ∧ e.addr ≤ a ∧ a < e.addr + e.bytes.length

/-- no two unmuted byte lines cover a common address (guaranteed by the overlap check, C04) -/
def NoCommonAddress (es : List Emitted) : Prop :=
  es.Pairwise fun e e' => ∀ a, ¬ (Covers e a ∧ Covers e' a)

/-- `NoCommonAddress` in terms of the Boolean cover predicate of `specImageByte` -/
theorem noCommon_of {es : List Emitted} : NoCommonAddress es ↔ NoCommon es := by
  simp only [NoCommonAddress, NoCommon, Covers, cov_iff]

/-- an explicit window has length `end - start + 1` (0 when negative) -/
theorem image_length_explicit (start stop : Int) (fill : Nat) (m : List (Int × Nat)) :
    (imageOf start (some stop) fill m).length = (stop + 1 - start).toNat := by
  exact imageOf_length start (some stop) fill m

/-- without an end the window ends at the highest address that received an emitted byte -/
theorem image_length_default (start : Int) (fill : Nat) (m : List (Int × Nat)) :
    (imageOf start none fill m).length = ((maxAddr m).getD (start - 1) + 1 - start).toNat := by
  exact imageOf_length start none fill m

theorem maxAddr_none_iff (m : List (Int × Nat)) : maxAddr m = none ↔ m = [] := by
  rw [maxAddr_eq_max?, List.max?_eq_none_iff, List.map_eq_nil_iff]

theorem maxAddr_is_max (m : List (Int × Nat)) (x : Int) (h : maxAddr m = some x) :
    (∃ b, (x, b) ∈ m) ∧ ∀ k b, (k, b) ∈ m → k ≤ x := by
  rw [maxAddr_eq_max?, List.max?_eq_some_iff] at h
  obtain ⟨hm, hmax⟩ := h
  obtain ⟨⟨k, b⟩, hkb, rfl⟩ := List.mem_map.mp hm
  exact ⟨⟨b, hkb⟩, fun k b hk => hmax k (List.mem_map.mpr ⟨(k, b), hk, rfl⟩)⟩

/-- offset `i` of the image is the byte of address `start + i`, or the fill value -/
theorem image_byte (start : Int) (stop : Option Int) (fill : Nat) (m : List (Int × Nat)) (i : Nat)
    (hi : i < (imageOf start stop fill m).length) :
    (imageOf start stop fill m)[i]? = some ((mapGet m (start + (i : Int))).getD fill) := by
  cases stop <;>
  · simp only [imageOf, List.length_map, List.length_range] at hi
    simp only [imageOf, List.getElem?_map, List.getElem?_range hi, Option.map_some]

/-- the address→byte map holds exactly the bytes of the unmuted byte lines: an address covered by
    a line maps to that line's byte at the right offset … -/
theorem memMap_covered (es : List Emitted) (hno : NoCommonAddress es) (e : Emitted) (he : e ∈ es)
    (a : Int) (hc : Covers e a) :
    mapGet (memMap es) a = e.bytes[(a - e.addr).toNat]? := by
  have hc' : cov e a = true := cov_iff.mpr hc
  have hlt : (a - e.addr).toNat < e.bytes.length :=
    (Int.toNat_lt (Int.sub_nonneg_of_le hc.2.2.1)).mpr (Int.sub_left_lt_of_lt_add hc.2.2.2)
  obtain ⟨l₁, l₂, rfl⟩ := List.mem_iff_append.mp he
  unfold NoCommonAddress at hno
  rw [List.pairwise_append, List.pairwise_cons] at hno
  -- the dictionary holds the byte of the last covering line, and no line behind `e` covers `a`
  have h₂ : l₂.reverse.findSome? (lineGet a) = none :=
    findSome?_lineGet_none.mpr fun e' he' =>
      Bool.eq_false_iff.mpr fun hce => hno.2.1.1 e' (List.mem_reverse.mp he') a ⟨hc, cov_iff.mp hce⟩
  rw [mapGet_memMap, List.reverse_append, List.reverse_cons, List.append_assoc, List.findSome?_append, h₂,
    Option.none_or, List.singleton_append, List.findSome?_cons, lineGet, hc']
  simp [hlt]

/-- … and an address covered by no unmuted byte line is absent (muted lines contribute nothing) -/
theorem memMap_uncovered (es : List Emitted) (a : Int) (h : ∀ e ∈ es, ¬ Covers e a) :
    mapGet (memMap es) a = none := by
  rw [mapGet_memMap, findSome?_lineGet_none]
  intro e he
  exact Bool.eq_false_iff.mpr fun hc => h e (List.mem_reverse.mp he) (cov_iff.mp hc)

/-- every key of the map is covered by some unmuted byte line (nothing else is ever written) -/
theorem memMap_keys (es : List Emitted) (a : Int) (b : Nat) (h : (a, b) ∈ memMap es) :
    ∃ e ∈ es, Covers e a := by
  obtain ⟨e, he, hc⟩ := mem_keys_memMap.mp (List.mem_map.mpr ⟨(a, b), h, rfl⟩)
  exact ⟨e, he, cov_iff.mp hc⟩

/-- Full statement: the image of an explicit window is, offset by offset, the specified byte:
    the assembled byte where an unmuted line emitted one, the fill value elsewhere — also when a
    line straddles the window's start or end. -/
theorem image_eq_spec (es : List Emitted) (hno : NoCommonAddress es) (start stop : Int) (fill : Nat) :
    imageOf start (some stop) fill (memMap es) =
      (List.range (stop + 1 - start).toNat).map fun (i : Nat) => specImageByte es fill (start + (i : Int)) := by
  exact imageOf_eq_spec (noCommon_of.mp hno) start (some stop) fill

/-- with no end given: same bytes, and the window stops exactly at the highest emitted address -/
theorem image_eq_spec_default (es : List Emitted) (hno : NoCommonAddress es) (start : Int) (fill : Nat) :
    imageOf start none fill (memMap es) =
      (List.range (((maxAddr (memMap es)).getD (start - 1)) + 1 - start).toNat).map
        fun (i : Nat) => specImageByte es fill (start + (i : Int)) := by
  exact imageOf_eq_spec (noCommon_of.mp hno) start none fill

theorem default_end_is_highest (es : List Emitted) (x : Int) (h : maxAddr (memMap es) = some x) :
    (∃ e ∈ es, Covers e x) ∧ ∀ a, (∃ e ∈ es, Covers e a) → a ≤ x := by
  rw [maxAddr_eq_max?, List.max?_eq_some_iff] at h
  simp only [mem_keys_memMap, cov_iff] at h
  exact h

/-- non-vacuity: two 4-byte lines, window 2..5 cuts both -/
example :
    imageOf 2 (some 5) 0 (memMap [⟨0, 4, [1, 2, 3, 4], false, true⟩, ⟨4, 4, [5, 6, 7, 8], false, true⟩])
      = [3, 4, 5, 6] := by decide +kernel

/-! ## end to end: what the hypotheses above are worth for a program that was accepted

The theorems above assume `NoCommonAddress`.  For the lines of any program the model accepts this holds -
no hypothesis left: every byte line emits exactly the bytes the first pass reserved for it, so the ranges
the overlap check compares are the ranges the bytes occupy. -/

/-- every byte line of an assembled program emits exactly as many bytes as were reserved for it
    (none when the reserved size is negative: a fill with a negative count) -/
theorem emitted_sizes_match (cfg : Cfg) (files : List (List Stmt)) (es : List Emitted) (L : Labels)
    (h : assembleLines cfg files = .ok (es, L)) (e : Emitted) (he : e ∈ es) (hb : e.isByte = true) :
    (e.bytes.length : Int) = if 0 ≤ e.size then e.size else 0 :=
  assembleLines_wf h e he hb

/-- the lines of an accepted program: no two unmuted byte lines cover a common address -/
theorem accepted_no_common_address (cfg : Cfg) (files : List (List Stmt)) (start : Int) (stop : Option Int) (fill : Nat)
    (o : Outcome) (h : assemble cfg files start stop fill = .ok o) : NoCommonAddress o.emitted := by
  obtain ⟨es, L, hl, ho, rfl⟩ := assemble_ok h
  exact noCommon_of.mpr (assembleLines_noCommon hl ho)

/-- the default end of the window is the highest last-byte address of the lines -/
theorem default_end_eq_last_byte (es : List Emitted) : maxAddr (memMap es) = lastByteAddr es :=
  maxAddr_memMap_eq_last es

/-- Full statement, no hypothesis: the image of an accepted program is, offset by offset, the byte of
    the line that covers the address, the fill value where none does; without an explicit end it
    stops at the highest address that received a byte.  (`assembleFast` computes exactly that, line by
    line, with the bytes of each line in an array: `imageFastA_eq`; it is what the driver of the
    correspondence runs.) -/
theorem assemble_eq_fast (cfg : Cfg) (files : List (List Stmt)) (start : Int) (stop : Option Int) (fill : Nat) :
    assemble cfg files start stop fill = assembleFast cfg files start stop fill :=
  BV.assemble_eq_fast cfg files start stop fill

theorem accepted_image_is_spec (cfg : Cfg) (files : List (List Stmt)) (start : Int) (stop : Option Int) (fill : Nat)
    (o : Outcome) (h : assemble cfg files start stop fill = .ok o) :
    o.image = imageFast start stop (fill % 256) o.emitted := by
  obtain ⟨es, L, hl, ho, rfl⟩ := assemble_ok h
  exact imageOf_eq_fast (assembleLines_noCommon hl ho)

/-- non-vacuity: the line-by-line image of two 4-byte lines, window 2..5 -/
example : imageFast 2 (some 5) 0 [⟨0, 4, [1, 2, 3, 4], false, true⟩, ⟨4, 4, [5, 6, 7, 8], false, true⟩] = [3, 4, 5, 6] := by
  decide +kernel
example : lastByteAddr [⟨0, 4, [1, 2, 3, 4], false, true⟩, ⟨9, 2, [5, 6], true, true⟩, ⟨4, 4, [5, 6, 7, 8], false, true⟩] = some 7 := by
  decide +kernel

/-- what a program emits does not depend on the window or the fill value asked for -/
theorem emitted_window_independent (cfg : Cfg) (files : List (List Stmt)) (s s' : Int) (e e' : Option Int) (fill fill' : Nat)
    (o o' : Outcome) (h : assemble cfg files s e fill = .ok o) (h' : assemble cfg files s' e' fill' = .ok o') :
    o.emitted = o'.emitted := by
  obtain ⟨es, L, hl, _, rfl⟩ := assemble_ok h
  obtain ⟨es', L', hl', _, rfl⟩ := assemble_ok h'
  rw [hl] at hl'
  cases hl'
  rfl

/-- the image of a window that lies inside another window is cut out of that one: same bytes at the same addresses
    (in particular the image of `-s a -e b` is the slice `a..b` of the whole image) -/
theorem accepted_window_is_cut_of_wider (cfg : Cfg) (files : List (List Stmt)) (fill : Nat) (s e s' e' : Int)
    (o o' : Outcome) (h : assemble cfg files s (some e) fill = .ok o) (h' : assemble cfg files s' (some e') fill = .ok o')
    (h1 : s ≤ s') (h2 : s' ≤ e' + 1) (h3 : e' ≤ e) :
    o'.image = ((o.image).drop (s' - s).toNat).take (e' + 1 - s').toNat := by
  rw [accepted_image_is_spec cfg files s (some e) fill o h, accepted_image_is_spec cfg files s' (some e') fill o' h',
    emitted_window_independent cfg files s s' (some e) (some e') fill fill o o' h h']
  exact imageFast_subwindow h1 h2 h3

end BV.C03
