/-
  Property C15 — assembly is deterministic.  (Partial: the model is a function, so its
  determinism is trivial; what is proved is that every place where the implementation consumes a
  hash-ordered collection — the register set, the include-directory set — is insensitive to the
  order of that collection.  That these are the ONLY such places is established by the static scan
  and the multi-hash-seed runs of the check, not by proof.)
-/
import BespokeVerif.Model.Select
import BespokeVerif.Model.Layout
import BespokeVerif.Model.Include
import BespokeVerif.Lemmas.Determinism
import BespokeVerif.Lemmas.Include
namespace BV.C15
open BV

/-- membership tests on the register collection do not depend on its order -/
theorem contains_perm (regs regs' : List String) (h : regs.Perm regs') (s : String) :
    regs'.contains s = regs.contains s := by
  rw [Bool.eq_iff_iff, List.contains_iff_mem, List.contains_iff_mem]
  exact h.mem_iff.symm

/-- … and so is the case-insensitive register-name test -/
theorem isRegName_perm (regs regs' : List String) (h : regs.Perm regs') (s : String) :
    isRegName regs' s = isRegName regs s := by
  rw [isRegName_of_perm h]

theorem hasReg_perm (regs regs' : List String) (h : regs.Perm regs') (e : E) : hasReg regs' e = hasReg regs e := by
  rw [hasReg_congr (isRegName_of_perm h)]

/-- operand acceptance does not depend on the order of the register set -/
theorem accepts_perm_regs (regs regs' : List String) (h : regs.Perm regs') (gz : Int × Int) (id : String)
    (c : OperandCfg) (f : Form) : accepts regs' gz id c f = accepts regs gz id c f := by
  rw [accepts_congr (isRegName_of_perm h)]

theorem matchSet_perm_regs (regs regs' : List String) (h : regs.Perm regs') (gz : Int × Int)
    (set : List (String × OperandCfg)) (f : Form) : matchSet regs' gz set f = matchSet regs gz set f := by
  rw [matchSet_congr (isRegName_of_perm h)]

/-- … and neither does the choice of the variant -/
theorem selectVariant_perm_regs (regs regs' : List String) (h : regs.Perm regs') (gz : Int × Int)
    (vs : List VariantCfg) (fs : List Form) (i : Nat) :
    selectVariant regs' gz vs fs i = selectVariant regs gz vs fs i := by
  rw [selectVariant_congr (isRegName_of_perm h)]

/-- label lookup (the register check at global scope) does not depend on the order of the register set -/
theorem lookup_perm_regs (L : Labels) (regs regs' : List String) (h : regs.Perm regs') (sc : Scope) (name : String) :
    L.lookup regs' sc name = L.lookup regs sc name := by
  unfold Labels.lookup
  rw [isRegName_of_perm h]

/-- locating an included file does not depend on the order in which the directory set is iterated -/
theorem locate_perm (present : String → Bool) (dirs dirs' : List String) (hp : dirs.Perm dirs') :
    locate present dirs' = locate present dirs :=
  locate_perm' present hp

/-- the de-duplicated directory collection does not depend (as a collection) on the order in which
    the directories were supplied on the command line -/
theorem dedupDirs_perm (real : String → String) (dirs dirs' : List String) (hp : dirs.Perm dirs') :
    (dedupDirs real dirs).Perm (dedupDirs real dirs') :=
  dedupDirs_perm' real hp

/-- locating through the de-duplicated directories is independent of the command-line order -/
theorem locate_dedup_perm (present : String → Bool) (real : String → String) (dirs dirs' : List String)
    (hp : dirs.Perm dirs') :
    locate present (dedupDirs real dirs') = locate present (dedupDirs real dirs) :=
  locate_perm' present (dedupDirs_perm' real hp)

end BV.C15
