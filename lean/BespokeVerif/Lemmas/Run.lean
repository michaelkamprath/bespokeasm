/-
  What C14 needs below the driver: the file-system layer (`FS.read` after `FS.write`), the first failing
  line of `emitAll`, a label the environment does not know.
-/
import BespokeVerif.Model.Run
import BespokeVerif.Lemmas.Basics
namespace BV

theorem FS.read_write_same (fs : FS) (name : String) (data : List Nat) :
    (fs.write name data).read name = some data := by
  simp [FS.read, FS.write]

theorem FS.read_write_other {fs : FS} {name other : String} {data : List Nat}
    (hne : (other == name) = false) : (fs.write name data).read other = fs.read other := by
  have hne' : other ≠ name := by simpa using hne
  unfold FS.read FS.write
  -- the new entry is not called `other`; the filter drops only entries the search for `other` passes over
  rw [List.find?_cons_of_neg (by simpa using Ne.symm hne'), List.find?_filter]
  congr 2
  funext f
  by_cases hf : f.1 = other
  · simp [hf, hne']
  · simp [hf]

theorem valueE_label_unresolved {env : String → Option Int} {s : String} (hn : env s = none) :
    valueE env (.label s) = .error .unresolvedLabel := by
  simp only [valueE, evalE, hn]; rfl

theorem emitAll_error_at {cfg : Cfg} {L : Labels} {pre post : List Placed} {p : Placed} {e : Err}
    (hp : lineBytes cfg L p = .error e) (hpre : ∀ q ∈ pre, ∃ bs, lineBytes cfg L q = .ok bs) :
    emitAll cfg L (pre ++ p :: post) = .error e := by
  induction pre with
  | nil => simp only [List.nil_append, emitAll, hp]; rfl
  | cons q qs ih =>
    obtain ⟨bs, hq⟩ := hpre q (List.mem_cons_self)
    have := ih (fun x hx => hpre x (List.mem_cons_of_mem _ hx))
    simp only [List.cons_append, emitAll, hq, this]; rfl

end BV
