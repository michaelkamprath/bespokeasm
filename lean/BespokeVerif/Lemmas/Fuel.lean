/-
  Predicates on the results of the fuel-indexed functions of the front end (`lexLoop`, `parseLevel`,
  `parseLoop`, `parseStmts`): two instances of `Errs` (Basics), `OnlyBad` for "fails only with
  `badExpression`" and `NoOof` for "does not fail for lack of fuel"; `Approx` for "equal unless the fuel ran out".
-/
import BespokeVerif.Lemmas.Basics
namespace BV

abbrev OnlyBad {α} (x : Except Err α) : Prop := Errs (· = .badExpression) x

abbrev NoOof {α} (x : Except Err α) : Prop := Errs (· ≠ .outOfFuel) x

theorem OnlyBad.noOof {α} {x : Except Err α} (h : OnlyBad x) : NoOof x := h.mono fun _ he => he ▸ by decide

def Approx {α} (x y : Except Err α) : Prop := x = .error .outOfFuel ∨ x = y

theorem Approx.bind {α β} {x : Except Err α} {a : α} (g : α → Except Err β)
    (h : Approx x (.ok a)) : Approx (x >>= g) (g a) := by
  rcases h with rfl | rfl
  · exact .inl rfl
  · exact .inr rfl

theorem Approx.trans {α} {x y z : Except Err α} (h₁ : Approx x y) (h₂ : Approx y z) : Approx x z := by
  rcases h₁ with rfl | rfl
  · exact .inl rfl
  · exact h₂

end BV
