/-
  `parseStmts` is one statement step iterated: `stmtStep` reads the first statement of a trimmed line
  and hands the rest of the line to a continuation `k`; `parseStmts_succ` puts `parseStmts` itself in
  for `k`.  Everything else about `parseStmts` is proved about the step, with `k` a variable.
-/
import BespokeVerif.Model.Parse
namespace BV

/-- the directive arms of `parseStmts`, the parser for the rest of the line as a parameter -/
def directive (cfg : PCfg) (k : List Char → Except Err (List Stmt)) (name : String) (rest : List Char) :
    Except Err (List Stmt) :=
  match name with
  | ".org" =>
    let (own, after) := cutAtLabelDef [] rest
    let body := ptrim own
    let st : Except Err Stmt := match body.getLast? with
      | some '"' =>
        let inner := body.dropLast
        let zone := (inner.reverse.takeWhile (· != '"')).reverse
        let ex := inner.take (inner.length - zone.length - 1)
        do .ok (.org (← parseExprText (ptrim ex)) (some (String.ofList zone)))
      | _ => do .ok (.org (← parseExprText body) none)
    do .ok ((← st) :: (← k after))
  | ".memzone" =>
    let body := ptrimL rest
    let name := body.takeWhile isWordChar
    do .ok (.memzone (String.ofList name) :: (← k (body.drop name.length)))
  | ".fill" =>
    let (own, after) := cutAtLabelDef [] rest
    match splitCommas (ptrim own) with
    | [a, b] => do .ok (.fill (← parseExprText (ptrim a)) (← parseExprText (ptrim b)) :: (← k after))
    | _ => .error .badDirective
  | ".zero" =>
    let (own, after) := cutAtLabelDef [] rest
    do .ok (.fill (← parseExprText (ptrim own)) (.num 0) :: (← k after))
  | ".zerountil" =>
    let (own, after) := cutAtLabelDef [] rest
    do .ok (.zerountil (← parseExprText (ptrim own)) :: (← k after))
  | ".align" =>
    if (ptrim rest).isEmpty then .ok [.align none]
    else
      let (own, after) := cutAtLabelDef [] rest
      if (ptrim own).isEmpty then do .ok [.align (some (← parseExprText (ptrim rest)))]
      else do .ok (.align (some (← parseExprText (ptrim own))) :: (← k after))
  | ".byte" => do let (s, after) ← parseData cfg 1 none rest; .ok (s :: (← k after))
  | ".2byte" => do let (s, after) ← parseData cfg 2 none rest; .ok (s :: (← k after))
  | ".4byte" => do let (s, after) ← parseData cfg 4 none rest; .ok (s :: (← k after))
  | ".8byte" => do let (s, after) ← parseData cfg 8 none rest; .ok (s :: (← k after))
  | ".cstr" => do let (s, after) ← parseData cfg 1 (some cfg.cstrTerm) rest; .ok (s :: (← k after))
  | ".asciiz" => do let (s, after) ← parseData cfg 1 (some cfg.cstrTerm) rest; .ok (s :: (← k after))
  | _ => .error .badDirective

/-- one statement of a trimmed line; `k` parses the rest of the line -/
def stmtStep (cfg : PCfg) (k : List Char → Except Err (List Stmt)) (t : List Char) : Except Err (List Stmt) :=
  match t with
  | [] => .ok []
  | c0 :: _ =>
    let (w, rest) := takeName t
    if !w.isEmpty && rest.head? == some ':' then do
      let more ← k rest.tail
      .ok (.label (String.ofList w) :: more)
    else
    let r1 := ptrimL rest
    let isEqu := (lowerS (takeName r1).1 == "equ") && !w.isEmpty && !(w.head? == some '.')
    if !w.isEmpty && !(w.head? == some '.') && r1.head? == some '=' && !(r1.tail.head? == some '=') then do
      .ok [.const (String.ofList w) (← parseExprText (ptrim r1.tail))]
    else if isEqu then do
      .ok [.const (String.ofList w) (← parseExprText (ptrim (takeName r1).2))]
    else if c0 == '.' then directive cfg k (lowerS w) rest
    else if c0 == '"' && cfg.embedded then
      match takeQuotedBody '"' false t.tail with
      | some (b, after) => do .ok (.str (String.ofList b) (some cfg.cstrTerm) :: (← k after))
      | none => .error .badDirective
    else if cfg.mnemonics.contains (lowerS w) then
      let (ops, after) := cutAtMnemonic cfg none false rest
      do
        let fs ← match parseOperands cfg.regs ops with
          | .ok fs => pure fs
          | .error _ => .error .noVariant
        let more ← k after
        .ok (.isa (lowerS w) fs :: more)
    else .error .unknownInstruction

/- The one place where `parseStmts` is unfolded.  `directive` and `stmtStep` repeat the text of
   `parseStmts` with the recursive call `parseStmts cfg fuel` as the parameter `k`, so that the two
   sides agree by unfolding.  The trimmed text is made a variable first: with `ptrim t` as the
   discriminant the unifier tries to evaluate it at every `match` of the two texts (ten times the work). -/
theorem parseStmts_succ (cfg : PCfg) (f : Nat) (t : List Char) :
    parseStmts cfg (f + 1) t = stmtStep cfg (parseStmts cfg f) (ptrim t) := by
  rw [parseStmts]
  generalize ptrim t = u
  rfl

end BV
