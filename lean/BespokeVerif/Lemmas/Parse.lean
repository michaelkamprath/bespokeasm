/-
  The text front end (`Model/Parse.lean`): comment removal, trimming (`Solid`: text without blanks, across
  which trimming does not reach), names, and what the statement step of `Lemmas/ParseStep.lean` makes of
  a line that begins with a name; `parseStmts` itself is never unfolded here.
-/
import BespokeVerif.Lemmas.ParseStep
import BespokeVerif.Lemmas.Scan
namespace BV

theorem stripComment_plain_append {a : List Char} (b : List Char) (h : ∀ c ∈ a, c ≠ ';' ∧ isQuote c = false) :
    stripComment none (a ++ b) = a ++ stripComment none b := by
  induction a with
  | nil => rfl
  | cons c a ih =>
    have hc := h c (List.mem_cons_self ..)
    have h1 : (c == ';') = false := by simpa using hc.1
    simp only [List.cons_append, stripComment, h1, hc.2, Bool.false_eq_true, if_false,
      ih fun x hx => h x (List.mem_cons_of_mem _ hx)]

theorem stripComment_plain {s : List Char} (h : ∀ x ∈ s, x ≠ ';' ∧ isQuote x = false) : stripComment none s = s := by
  simpa [stripComment] using stripComment_plain_append [] h

theorem stripComment_inside {q : Char} {body rest : List Char} (hq : q ≠ '\\') (hb : ∀ c ∈ body, c ≠ q ∧ c ≠ '\\') :
    stripComment (some (q, false)) (body ++ q :: rest) = body ++ q :: stripComment none rest := by
  induction body with
  | nil => simp [stripComment, hq]
  | cons c body ih =>
    have hc := hb c (List.mem_cons_self ..)
    have h1 : (c == '\\') = false := by simpa using hc.2
    have h2 : (c == q) = false := by simpa using hc.1
    simp only [List.cons_append, stripComment, Bool.false_eq_true, if_false, h1, h2,
      ih fun x hx => hb x (List.mem_cons_of_mem _ hx)]

/-- the text that is kept is scanned in the same modes as the text it was kept from -/
theorem stripComment_idem (m : QMode) (l : List Char) :
    stripComment m (stripComment m l) = stripComment m l := by
  fun_induction stripComment m l <;> simp only [stripComment, *, if_true, if_false, Bool.false_eq_true]

theorem ptrimL_idem (l : List Char) : ptrimL (ptrimL l) = ptrimL l := by
  unfold ptrimL
  induction l with
  | nil => rfl
  | cons c l ih =>
    by_cases h : isSpaceChar c
    · simp [h, ih]
    · simp [h]

theorem ptrimL_cons_nonspace {c : Char} {l : List Char} (h : isSpaceChar c = false) : ptrimL (c :: l) = c :: l := by
  simp [ptrimL, h]

theorem ptrimR_nil : ptrimR [] = [] := rfl

theorem ptrimR_cons (c : Char) (l : List Char) :
    ptrimR (c :: l) = if isSpaceChar c && (ptrimR l).isEmpty then [] else c :: ptrimR l := by
  unfold ptrimR ptrimL
  rw [List.reverse_cons, List.dropWhile_append]
  by_cases hb : (List.dropWhile isSpaceChar l.reverse).isEmpty
  · have hb' : List.dropWhile isSpaceChar l.reverse = [] := by simpa using hb
    by_cases hc : isSpaceChar c <;> simp [hb', hc]
  · simp [hb]

theorem ptrimR_append_cons (a b : List Char) (c : Char) (h : isSpaceChar c = false) :
    ptrimR (a ++ c :: b) = a ++ c :: ptrimR b := by
  induction a with
  | nil => simp [ptrimR_cons, h]
  | cons x a ih => simp [ptrimR_cons, ih]

theorem ptrimR_idem (l : List Char) : ptrimR (ptrimR l) = ptrimR l := by
  unfold ptrimR
  rw [List.reverse_reverse, ptrimL_idem]

theorem ptrimL_ptrimR_comm (l : List Char) : ptrimL (ptrimR l) = ptrimR (ptrimL l) := by
  induction l with
  | nil => rfl
  | cons c l ih =>
    rw [ptrimR_cons]
    by_cases hc : isSpaceChar c
    · rw [show ptrimL (c :: l) = ptrimL l from List.dropWhile_cons_of_pos hc, ← ih]
      by_cases he : ptrimR l = []
      · simp [he, hc]
      · simp [he, hc, ptrimL]
    · have hc' : isSpaceChar c = false := by simpa using hc
      rw [ptrimL_cons_nonspace hc', ptrimR_cons]
      simp [hc', ptrimL]

theorem ptrim_idem (l : List Char) : ptrim (ptrim l) = ptrim l := by
  unfold ptrim
  rw [ptrimL_ptrimR_comm, ptrimL_idem, ptrimR_idem]

theorem ptrim_ptrimR (l : List Char) : ptrim (ptrimR l) = ptrim l := by
  unfold ptrim
  rw [ptrimL_ptrimR_comm, ptrimR_idem]

theorem ptrim_ptrimL (l : List Char) : ptrim (ptrimL l) = ptrim l := by
  unfold ptrim
  rw [ptrimL_idem]

theorem ptrimR_prefix (l : List Char) : ptrimR l <+: l := by
  have h := List.reverse_prefix.mpr (List.dropWhile_suffix isSpaceChar (l := l.reverse))
  rwa [List.reverse_reverse] at h

theorem head_ptrimR {l : List Char} {c : Char} (h : (ptrimR l).head? = some c) : l.head? = some c := by
  obtain ⟨r, hr⟩ := ptrimR_prefix l
  rw [← hr, List.head?_append, h]
  rfl

def Solid (a : List Char) : Prop := a ≠ [] ∧ ∀ c ∈ a, isSpaceChar c = false

theorem Solid.ptrimR_append {a : List Char} (ha : Solid a) (x r : List Char) :
    ptrimR (x ++ a ++ r) = x ++ a ++ ptrimR r := by
  rcases List.eq_nil_or_concat a with rfl | ⟨a', c, rfl⟩
  · exact absurd rfl ha.1
  · have hc := ha.2 c (by simp)
    simp only [List.concat_eq_append, List.append_assoc, List.singleton_append]
    rw [← List.append_assoc, ptrimR_append_cons _ _ _ hc, List.append_assoc]

theorem Solid.ptrim_append {a : List Char} (ha : Solid a) (r : List Char) : ptrim (a ++ r) = a ++ ptrimR r := by
  obtain ⟨c, a', rfl⟩ := List.exists_cons_of_ne_nil ha.1
  rw [ptrim, List.cons_append, ptrimL_cons_nonspace (ha.2 c (List.mem_cons_self ..)), ← List.cons_append]
  exact ha.ptrimR_append [] r

theorem Solid.ptrim_between {w a : List Char} (hw : Solid w) (ha : Solid a) (x : List Char) :
    ptrim (w ++ (x ++ a)) = w ++ (x ++ a) := by
  have h := ha.ptrimR_append x []
  rw [ptrimR_nil, List.append_nil] at h
  rw [hw.ptrim_append, h]

theorem Solid.ptrim_eq {a : List Char} (ha : Solid a) : ptrim a = a := by
  simpa [ptrimR_nil] using ha.ptrim_append []

theorem Solid.ptrim_blank {a : List Char} (ha : Solid a) : ptrim (' ' :: a) = a := by
  rw [ptrim, show ptrimL (' ' :: a) = ptrimL a from List.dropWhile_cons_of_pos (by decide)]
  exact ha.ptrim_eq

theorem Solid.ptrimL_append {a : List Char} (ha : Solid a) (r : List Char) : ptrimL (a ++ r) = a ++ r := by
  obtain ⟨c, a', rfl⟩ := List.exists_cons_of_ne_nil ha.1
  exact ptrimL_cons_nonspace (ha.2 c (List.mem_cons_self ..))

theorem Solid.ptrimL_blank {a : List Char} (ha : Solid a) (r : List Char) : ptrimL (' ' :: (a ++ r)) = a ++ r :=
  (List.dropWhile_cons_of_pos (by decide)).trans (ha.ptrimL_append r)

/-- a name: non-empty, made of name characters (letters, digits, `_`, `.`) -/
def NameText (w : List Char) : Prop := w ≠ [] ∧ ∀ c ∈ w, isNameChar c = true

theorem NameText.solid {w : List Char} (hw : NameText w) : Solid w :=
  ⟨hw.1, fun c hc => not_space (p := isNameChar) (by decide) (by decide) (hw.2 c hc)⟩

theorem lowerS_eq (l : List Char) : lowerS l = String.ofList (l.map Char.toLower) := by
  unfold lowerS String.toLower
  rw [String.map_eq_internal]
  simp

theorem takeName_name {w rest : List Char} (hw : ∀ c ∈ w, isNameChar c = true) (hr : ∀ c, rest.head? = some c → isNameChar c = false) :
    takeName (w ++ rest) = (w, rest) := by
  have h := takeWhile_append_stop hw hr
  rw [takeName, h.1, h.2]

theorem parseStmts_congr (cfg : PCfg) (f : Nat) {t t' : List Char} (h : ptrim t = ptrim t') :
    parseStmts cfg f t = parseStmts cfg f t' := by
  cases f with
  | zero => rfl
  | succ f => rw [parseStmts_succ, parseStmts_succ, h]

theorem parseStmts_ptrimR (cfg : PCfg) (f : Nat) (t : List Char) : parseStmts cfg f (ptrimR t) = parseStmts cfg f t :=
  parseStmts_congr cfg f (ptrim_ptrimR t)

theorem parseStmts_ptrimL (cfg : PCfg) (f : Nat) (t : List Char) : parseStmts cfg f (ptrimL t) = parseStmts cfg f t :=
  parseStmts_congr cfg f (ptrim_ptrimL t)

theorem parseStmts_nil (cfg : PCfg) (f : Nat) : parseStmts cfg (f + 1) [] = .ok [] := by
  rw [parseStmts_succ]; rfl

/-- the statement step on a line that begins with a name `w`: what follows is decided by the character
    behind the name and by the name itself (the arms for a constant ask for a name without a dot, so the
    directive arm may stand in front of them) -/
theorem stmtStep_name (cfg : PCfg) {k : List Char → Except Err (List Stmt)} {w r : List Char} (hw : NameText w)
    (hr : ∀ c, r.head? = some c → isNameChar c = false) :
    stmtStep cfg k (w ++ r) =
      if r.head? == some ':' then (do let more ← k r.tail; .ok (.label (String.ofList w) :: more))
      else if w.head? == some '.' then directive cfg k (lowerS w) r
      else if (ptrimL r).head? == some '=' && !((ptrimL r).tail.head? == some '=') then
        (do .ok [.const (String.ofList w) (← parseExprText (ptrim (ptrimL r).tail))])
      else if lowerS (takeName (ptrimL r)).1 == "equ" then
        (do .ok [.const (String.ofList w) (← parseExprText (ptrim (takeName (ptrimL r)).2))])
      else if cfg.mnemonics.contains (lowerS w) then
        (do let fs ← (match parseOperands cfg.regs (cutAtMnemonic cfg none false r).1 with
                      | .ok fs => pure fs
                      | .error _ => .error .noVariant)
            let more ← k (cutAtMnemonic cfg none false r).2
            .ok (.isa (lowerS w) fs :: more))
      else .error .unknownInstruction := by
  have hn : takeName (w ++ r) = (w, r) := takeName_name hw.2 hr
  obtain ⟨c0, w', rfl⟩ := List.exists_cons_of_ne_nil hw.1
  have hq : (c0 == '"') = false := beq_false_of_class (hw.2 c0 (List.mem_cons_self ..)) (by decide)
  rw [List.cons_append] at hn ⊢
  rw [stmtStep.eq_def]
  simp only [hn, hq, List.head?_cons, List.isEmpty_cons, Bool.not_false, Bool.true_and, Bool.and_true, Bool.false_and,
    Bool.false_eq_true, if_false, Option.some_beq_some]
  by_cases hd : (c0 == '.') = true
  · simp only [hd, Bool.not_true, Bool.false_and, Bool.and_false, Bool.false_eq_true, if_false, if_true]
  · rw [Bool.not_eq_true] at hd
    simp only [hd, Bool.not_false, Bool.true_and, Bool.and_true, Bool.false_eq_true, if_false]
    cases parseOperands cfg.regs (cutAtMnemonic cfg none false r).1 <;> rfl

theorem parseStmts_directive (cfg : PCfg) (f : Nat) {t d r : List Char} (ht : ptrim t = d ++ r)
    (hd : NameText d) (hdot : d.head? = some '.') (hr : ∀ c, r.head? = some c → isNameChar c = false ∧ c ≠ ':') :
    parseStmts cfg (f + 1) t = directive cfg (parseStmts cfg f) (lowerS d) r := by
  rw [parseStmts_succ, ht, stmtStep_name cfg hd fun c hc => (hr c hc).1, beq_false_of_ne fun h => (hr ':' h).2 rfl, hdot]
  rfl

theorem parseStmts_isa (cfg : PCfg) (f : Nat) {t w r : List Char} (ht : ptrim t = w ++ r)
    (hw : NameText w) (hwdot : w.head? ≠ some '.') (hmn : cfg.mnemonics.contains (lowerS w) = true)
    (hr : ∀ c, r.head? = some c → isNameChar c = false ∧ c ≠ ':')
    (heq : (ptrimL r).head? ≠ some '=') (hequ : lowerS (takeName (ptrimL r)).1 ≠ "equ") :
    parseStmts cfg (f + 1) t =
      (do let fs ← (match parseOperands cfg.regs (cutAtMnemonic cfg none false r).1 with
                    | .ok fs => pure fs
                    | .error _ => .error .noVariant)
          let more ← parseStmts cfg f (cutAtMnemonic cfg none false r).2
          .ok (.isa (lowerS w) fs :: more)) := by
  rw [parseStmts_succ, ht, stmtStep_name cfg hw fun c hc => (hr c hc).1, beq_false_of_ne fun h => (hr ':' h).2 rfl,
    beq_false_of_ne hwdot, beq_false_of_ne heq, beq_false_of_ne hequ, hmn]
  rfl

theorem solid_of_word {z : List Char} (hz : z ≠ [] ∧ ∀ c ∈ z, isWordChar c = true) : Solid z :=
  ⟨hz.1, fun c hc => wordChar_not_space (hz.2 c hc)⟩

theorem directive_memzone (cfg : PCfg) (k : List Char → Except Err (List Stmt)) {z rest : List Char}
    (hz : z ≠ [] ∧ ∀ c ∈ z, isWordChar c = true) (hr : ∀ c, rest.head? = some c → isWordChar c = false) :
    directive cfg k ".memzone" (' ' :: (z ++ rest)) = (do let more ← k rest; .ok (.memzone (String.ofList z) :: more)) := by
  simp only [directive.eq_def, (solid_of_word hz).ptrimL_blank, (takeWhile_append_stop hz.2 hr).1,
    List.drop_left]

/-- text of a directive argument that cannot be mistaken for the start of a label definition:
    no white space, no colon (and no quote) -/
def ArgText (own : List Char) : Prop := own ≠ [] ∧ ∀ c ∈ own, isSpaceChar c = false ∧ c ≠ ':' ∧ c ≠ '"'

theorem ArgText.solid {a : List Char} (ha : ArgText a) : Solid a := ⟨ha.1, fun c hc => (ha.2 c hc).1⟩

theorem startsLabelDef_no_colon {x r : List Char} (hx : ∀ c ∈ x, c ≠ ':') (hr : ∀ c, r.head? = some c → c = ' ') :
    startsLabelDef (x ++ r) = false := by
  -- the run of word characters ends in front of the blank at the latest
  have key : ∀ x : List Char, (∀ c ∈ x, c ≠ ':') → (((x ++ r).dropWhile isWordChar).head? == some ':') = false := by
    intro x hx
    induction x with
    | nil =>
      cases r with
      | nil => rfl
      | cons c y => cases hr c rfl; rfl
    | cons c x ih =>
      rw [List.cons_append, List.dropWhile_cons]
      split
      · exact ih fun a ha => hx a (List.mem_cons_of_mem _ ha)
      · simpa using hx c (List.mem_cons_self ..)
  unfold startsLabelDef
  simp only [drop_takeWhile_length]
  split
  · rename_i hdot
    cases x with
    | nil =>
      cases r with
      | nil => cases hdot
      | cons c y => cases hr c rfl; cases hdot
    | cons c x => simp only [List.cons_append, List.tail_cons, key x fun a ha => hx a (List.mem_cons_of_mem _ ha), Bool.and_false]
  · simp only [key x hx, Bool.and_false]

theorem cutAtLabelDef_skip {acc own r : List Char} (hown : ∀ c ∈ own, isSpaceChar c = false) :
    cutAtLabelDef acc (own ++ r) = cutAtLabelDef (own.reverse ++ acc) r := by
  induction own generalizing acc with
  | nil => rfl
  | cons c own ih =>
    rw [List.cons_append, cutAtLabelDef, hown c (List.mem_cons_self ..), Bool.false_and, if_neg (by decide),
      ih fun a ha => hown a (List.mem_cons_of_mem _ ha), List.reverse_cons, List.append_assoc]
    rfl

/-- an argument text `a` without blanks or colons behind a blank: the cut falls neither in front of it
    (no label definition begins there) nor inside it -/
theorem cutAtLabelDef_blank_arg {a : List Char} (ha : Solid a) (hc : ∀ c ∈ a, c ≠ ':') (r : List Char)
    (hr : ∀ c, r.head? = some c → c = ' ') :
    cutAtLabelDef [] (' ' :: (a ++ r)) = cutAtLabelDef (a.reverse ++ [' ']) r := by
  rw [cutAtLabelDef, ha.ptrimL_append, startsLabelDef_no_colon hc hr, Bool.and_false, if_neg (by decide),
    cutAtLabelDef_skip ha.2]

theorem cutAtLabelDef_arg {own after : List Char} (hown : ArgText own) (hafter : startsLabelDef (ptrimL after) = true) :
    cutAtLabelDef [] (' ' :: own ++ ' ' :: after) = (' ' :: own, after) := by
  rw [List.cons_append, cutAtLabelDef_blank_arg hown.solid (fun c hc => (hown.2 c hc).2.1) _ (by intro c hc; cases hc; rfl),
    cutAtLabelDef, hafter, show isSpaceChar ' ' = true from rfl, Bool.and_self, if_pos rfl]
  simp

theorem cutAtLabelDef_solid {a : List Char} (ha : Solid a) (hc : ∀ c ∈ a, c ≠ ':') :
    cutAtLabelDef [] (' ' :: a) = (' ' :: a, []) := by
  have h := cutAtLabelDef_blank_arg ha hc [] (by simp)
  rw [List.append_nil, cutAtLabelDef] at h
  simpa using h

/-- `.org` with an argument text `a` that does not end in a quoted zone name -/
theorem directive_org (cfg : PCfg) (k : List Char → Except Err (List Stmt)) {r a after : List Char}
    (hcut : cutAtLabelDef [] r = (' ' :: a, after)) (ha : Solid a) (hq : a.getLast? ≠ some '"') :
    directive cfg k ".org" r =
      (do let e ← parseExprText a
          let more ← k after
          .ok (.org e none :: more)) := by
  -- `simp` reduces the `match` on the last character by `hq`, which it takes from the context
  simp only [directive.eq_def, hcut, ha.ptrim_blank]
  cases parseExprText a <;> rfl

/-- text `a` without quotes in which no word is a mnemonic (`hno`), in front of a blank: scanning it for
    the start of the next instruction finds nothing, whatever follows the blank -/
theorem cutAtMnemonic_pre {cfg : PCfg} {a : List Char} (rest : List Char) {s : Bool} (hq : ∀ c ∈ a, isQuote c = false)
    (hno : cutAtMnemonic cfg none s (a ++ [' ']) = (a ++ [' '], [])) :
    cutAtMnemonic cfg none s (a ++ ' ' :: rest) =
      (a ++ ' ' :: (cutAtMnemonic cfg none true rest).1, (cutAtMnemonic cfg none true rest).2) := by
  induction a generalizing s with
  | nil =>
    rw [List.nil_append, cutAtMnemonic]
    simp only [show isQuote ' ' = false by decide, show isNameChar ' ' = false by decide, Bool.and_false,
      Bool.false_and, Bool.false_eq_true, if_false, Bool.not_false, List.nil_append]
  | cons c a ih =>
    -- the name that starts here ends at the blank at the latest
    have hname : (takeName (c :: a ++ ' ' :: rest)).1 = (takeName (c :: a ++ [' '])).1 :=
      (takeWhile_append_cons_stop isNameChar (c :: a) rest ' ' (by decide)).trans
        (takeWhile_append_cons_stop isNameChar (c :: a) [] ' ' (by decide)).symm
    simp only [List.cons_append] at hname hno ⊢
    rw [cutAtMnemonic] at hno ⊢
    simp only [hq c (List.mem_cons_self ..), Bool.false_eq_true, if_false, hname] at hno ⊢
    split at hno
    · cases hno
    · rename_i hcut
      simp only [Prod.mk.injEq, List.cons.injEq, true_and] at hno
      rw [if_neg hcut, ih (fun x hx => hq x (List.mem_cons_of_mem _ hx)) (Prod.ext hno.1 hno.2)]

theorem cutAtMnemonic_at_mnemonic {cfg : PCfg} {w2 r2 : List Char} (hw2 : NameText w2)
    (hr2 : ∀ c, r2.head? = some c → isNameChar c = false) (hm : cfg.mnemonics.contains (lowerS w2) = true) :
    cutAtMnemonic cfg none true (w2 ++ r2) = ([], w2 ++ r2) := by
  have hn := takeName_name hw2.2 hr2
  obtain ⟨c, w', rfl⟩ := List.exists_cons_of_ne_nil hw2.1
  have hc : isNameChar c = true := hw2.2 c (List.mem_cons_self ..)
  rw [List.cons_append] at hn ⊢
  rw [cutAtMnemonic, hn]
  simp only [not_quote (p := isNameChar) (by decide) (by decide) hc, Bool.false_eq_true, if_false, hc, Bool.true_and, hm, if_true]

end BV
