/-
  Whole-run facts about the emitted lines (every byte line emits as many bytes as the first pass reserved; a passing
  overlap check means no two unmuted byte lines share an address) and the line-by-line image `imageFast`,
  proved equal to the dictionary route of `assemble`.
-/
import BespokeVerif.Lemmas.Image
import BespokeVerif.Lemmas.Layout
import BespokeVerif.Model.Parse
namespace BV

/-- a byte line emits exactly as many bytes as were reserved for it (when that is not negative) -/
def WfEm (e : Emitted) : Prop := e.isByte = true → (e.bytes.length : Int) = if 0 ≤ e.size then e.size else 0

/-- the second pass gives a byte line as many bytes as its size says, whatever the labels are by then -/
def GoodPlaced (cfg : Cfg) (p : Placed) : Prop :=
  ∀ L bs, lineBytes cfg L p = .ok bs → isByteLine p.line.stmt = true → bs.length = p.size.toNat

theorem firstPass_good {cfg : Cfg} {lines : List Line} {st : Zones × Labels} {out : List Placed} {zs : Zones}
    {L : Labels} (h : firstPass cfg lines st = .ok (out, zs, L)) : ∀ p ∈ out, GoodPlaced cfg p := by
  induction lines generalizing st out with
  | nil => rw [firstPass] at h; cases h; exact List.forall_mem_nil _
  | cons ln rest ih =>
    obtain ⟨p1, zs1, L1, ps, h1, h2, rfl⟩ := firstPass_cons_ok h
    obtain ⟨_, _, _, _, hpl, _, _, rfl⟩ := firstPassStep_ok (zs := st.1) (L := st.2) h1
    exact List.forall_mem_cons.mpr ⟨fun L₂ bs hb hbyte => lineBytes_length hpl hb hbyte, ih h2⟩

theorem predefined_good {cfg : Cfg} : ∀ p ∈ predefinedLines cfg, GoodPlaced cfg p := by
  intro p hp
  obtain ⟨⟨n, addr, value, size⟩, _, rfl⟩ := List.mem_map.mp hp
  -- a predefined block is a `.fill` line: `size.toNat` copies of one byte
  intro L bs hb _
  obtain ⟨x, _, hb⟩ := bind_eq_ok hb
  cases hb
  exact List.length_replicate

theorem emitAll_wf {cfg : Cfg} {L : Labels} {ps : List Placed} {es : List Emitted}
    (hg : ∀ p ∈ ps, GoodPlaced cfg p) (h : emitAll cfg L ps = .ok es) : ∀ e ∈ es, WfEm e := by
  induction ps generalizing es with
  | nil => cases h; exact List.forall_mem_nil _
  | cons p rest ih =>
    obtain ⟨bs, es', hb, hr, rfl⟩ := emitAll_cons_ok h
    obtain ⟨hp, hrest⟩ := List.forall_mem_cons.mp hg
    refine List.forall_mem_cons.mpr ⟨fun hbyte => ?_, ih hrest hr⟩
    have hlen : bs.length = p.size.toNat := hp L bs hb hbyte
    show (bs.length : Int) = if 0 ≤ p.size then p.size else 0
    split <;> omega

theorem assembleLines_wf {cfg : Cfg} {files : List (List Stmt)} {es : List Emitted} {L : Labels}
    (h : assembleLines cfg files = .ok (es, L)) : ∀ e ∈ es, WfEm e := by
  obtain ⟨sorted, hp, he⟩ := assembleLines_ok h
  obtain ⟨_, _, lines, st, placed, zs, _, _, _, hf, rfl⟩ := assemblePlaced_ok hp
  -- the second pass is given the lines the first pass placed and the predefined data blocks
  refine emitAll_wf (fun p hp => ?_) he
  rcases List.mem_append.mp ((sortByAddr_perm' _).mem_iff.mp hp) with h1 | h2
  · exact firstPass_good hf p h1
  · exact predefined_good p h2

/-- an address covered by a well-formed line lies in the range the overlap check compares -/
theorem cov_occ {e : Emitted} (hwf : WfEm e) {a : Int} (hc : cov e a = true) :
    occ e = true ∧ e.addr ≤ a ∧ a < e.addr + e.size := by
  obtain ⟨hb, _, h1, h2⟩ := cov_iff.mp hc
  have w := hwf hb
  split at w
  · refine ⟨?_, h1, by omega⟩
    simp only [occ, hb, Bool.true_and, decide_eq_true_eq]
    omega
  · omega

theorem noCommon_of_check {es : List Emitted} (hwf : ∀ e ∈ es, WfEm e) (h : overlapCheck none es = .ok ()) :
    NoCommon es := by
  have hch := (overlapCheck_ok_iff.mp h).2
  rw [List.pairwise_filter] at hch
  refine List.Pairwise.imp_of_mem ?_ hch
  intro e e' he he' hS a ⟨hc, hc'⟩
  obtain ⟨o1, _, h1⟩ := cov_occ (hwf e he) hc
  obtain ⟨o2, h2, _⟩ := cov_occ (hwf e' he') hc'
  have := hS o1 o2
  omega

theorem assembleLines_noCommon {cfg : Cfg} {files : List (List Stmt)} {es : List Emitted} {L : Labels}
    (hl : assembleLines cfg files = .ok (es, L)) (ho : overlapCheck none es = .ok ()) : NoCommon es :=
  noCommon_of_check (assembleLines_wf hl) ho

theorem lastByteAddr_eq_max? (es : List Emitted) :
    lastByteAddr es = ((es.filter fun e => e.isByte && !e.muted && decide (0 < e.bytes.length)).map
      fun (e : Emitted) => e.addr + e.bytes.length - 1).max? := by
  refine Eq.trans ?_ (foldl_bump _ none)
  rw [List.foldl_map, List.foldl_filter]
  rfl

theorem maxAddr_memMap_eq_last (es : List Emitted) : maxAddr (memMap es) = lastByteAddr es := by
  rw [maxAddr_eq_max?, lastByteAddr_eq_max?]
  apply max?_congr
  · -- a key is covered by a line that emits, hence not above that line's last address
    intro a ha
    obtain ⟨e, he, hc⟩ := mem_keys_memMap.mp ha
    simp only [cov, Bool.and_eq_true, decide_eq_true_eq] at hc
    refine ⟨_, List.mem_map.mpr ⟨e, List.mem_filter.mpr ⟨he, ?_⟩, rfl⟩, by omega⟩
    simp only [Bool.and_eq_true, decide_eq_true_eq]
    exact ⟨hc.1.1, by omega⟩
  · -- the last address of a line that emits is a key
    intro k hk
    obtain ⟨e, he, rfl⟩ := List.mem_map.mp hk
    obtain ⟨he, hlive⟩ := List.mem_filter.mp he
    simp only [Bool.and_eq_true, decide_eq_true_eq] at hlive
    refine ⟨_, mem_keys_memMap.mpr ⟨e, he, ?_⟩, Int.le_refl _⟩
    simp only [cov, Bool.and_eq_true, decide_eq_true_eq]
    exact ⟨⟨hlive.1, by omega⟩, by omega⟩

theorem imageOf_eq_fast {es : List Emitted} (hno : NoCommon es) {start : Int} {stop : Option Int} {fill : Nat} :
    imageOf start stop fill (memMap es) = imageFast start stop fill es := by
  rw [imageOf_eq_spec hno, maxAddr_memMap_eq_last]
  rfl

theorem lookupLines_eq (es : List Emitted) (fill : Nat) (a : Int) :
    lookupLines (imageLines es) fill a = specImageByte es fill a := by
  unfold lookupLines imageLines specImageByte
  rw [List.find?_map, List.find?_filter]
  -- both look for the first unmuted byte line that covers `a`
  simp only [Function.comp, List.size_toArray, Bool.decide_and, Bool.decide_eq_true, Bool.and_assoc]
  cases es.find? _ with
  | none => rfl
  | some e => simp

theorem imageFastA_eq (start : Int) (stop : Option Int) (fill : Nat) (es : List Emitted) :
    imageFastA start stop fill es = imageFast start stop fill es := by
  unfold imageFastA imageFast
  simp only [lookupLines_eq]
  all_goals (cases stop <;> rfl)

theorem assemble_eq_fast (cfg : Cfg) (files : List (List Stmt)) (start : Int) (stop : Option Int) (fill : Nat) :
    assemble cfg files start stop fill = assembleFast cfg files start stop fill := by
  unfold assemble assembleFast
  cases hl : assembleLines cfg files with
  | error e => rfl
  | ok r =>
    obtain ⟨es, L⟩ := r
    simp only [bind, Except.bind]
    cases ho : overlapCheck none es with
    | error e => rfl
    | ok u =>
      cases u
      simp only
      rw [imageOf_eq_fast (assembleLines_noCommon hl ho), imageFastA_eq]

theorem asmText_eq_fast (cfg : Cfg) (pc : PCfg) (files : List String) (start : Int) (stop : Option Int) (fill : Nat) :
    asmText cfg pc files start stop fill = asmTextFast cfg pc files start stop fill := by
  unfold asmText asmTextFast
  simp only [assemble_eq_fast]

theorem emitAll_addr {cfg : Cfg} {L : Labels} {ps : List Placed} {es : List Emitted}
    (h : emitAll cfg L ps = .ok es) : es.map (·.addr) = ps.map (·.addr) := by
  induction ps generalizing es with
  | nil => cases h; rfl
  | cons p rest ih =>
    obtain ⟨bs, es', _, hr, rfl⟩ := emitAll_cons_ok h
    rw [List.map_cons, List.map_cons, ih hr]

theorem emitAll_sorted {cfg : Cfg} {L : Labels} {ps : List Placed} {es : List Emitted}
    (h : emitAll cfg L ps = .ok es) (hs : ps.Pairwise fun a b => a.addr ≤ b.addr) :
    es.Pairwise fun a b => a.addr ≤ b.addr := by
  have h1 : (ps.map (·.addr)).Pairwise (· ≤ ·) := by rw [List.pairwise_map]; exact hs
  rw [← emitAll_addr h, List.pairwise_map] at h1
  exact h1

theorem imageFast_subwindow {es : List Emitted} {fill : Nat} {s e s' e' : Int} (h1 : s ≤ s') (h2 : s' ≤ e' + 1) (h3 : e' ≤ e) :
    imageFast s' (some e') fill es = ((imageFast s (some e) fill es).drop (s' - s).toNat).take (e' + 1 - s').toNat := by
  -- in natural numbers: the narrow window has `n'` bytes and begins `k` bytes into the wide one, which has `n`
  obtain ⟨k, hk⟩ := Int.eq_ofNat_of_zero_le (Int.sub_nonneg_of_le h1)
  obtain ⟨n', hn'⟩ := Int.eq_ofNat_of_zero_le (Int.sub_nonneg_of_le h2)
  obtain ⟨n, hn⟩ := Int.eq_ofNat_of_zero_le (Int.sub_nonneg_of_le (Int.le_trans (Int.le_trans h1 h2) (Int.add_le_add_right h3 1)))
  unfold imageFast
  simp only [hk, hn', hn, Int.toNat_natCast]
  apply List.ext_getElem
  · simp only [List.length_map, List.length_range, List.length_take, List.length_drop]
    omega
  · intro i _ _
    simp only [List.getElem_map, List.getElem_range, List.getElem_take, List.getElem_drop]
    congr 1
    omega

end BV
