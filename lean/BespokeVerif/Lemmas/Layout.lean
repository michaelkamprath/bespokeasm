/-
  One step of the first pass is `placeOf` (address and size of the line), `Zones.setCur` and `labelUpd`
  (`firstPassStep_eq`, `firstPassStep_ok`); zone tables; the number of bytes a line emits; an accepted assembly
  inverted stage by stage (`assemble_ok`, `assembleLines_ok`, `assemblePlaced_ok`, `emitAll_cons_ok`).
-/
import BespokeVerif.Model.Layout
import BespokeVerif.Lemmas.StmtSize
import BespokeVerif.Lemmas.Basics
import BespokeVerif.Lemmas.Data
namespace BV

theorem alignUp_dvd' (a p : Int) : p ∣ alignUp a p := by
  unfold alignUp
  split
  · exact Int.dvd_of_emod_eq_zero ‹_›
  · refine ⟨a / p + 1, ?_⟩
    have h := Int.emod_add_mul_ediv a p
    rw [Int.mul_add, Int.mul_one]
    omega

theorem alignUp_aligned' {a p : Int} (h : p ∣ a) : alignUp a p = a := by
  unfold alignUp
  rw [if_pos (Int.emod_eq_zero_of_dvd h)]

theorem Zones.get?_name {zs : Zones} {n : String} {z : Zone} (h : zs.get? n = some z) : z.name = n := by
  simpa using List.find?_some h

theorem Zones.get?_mem {zs : Zones} {n : String} {z : Zone} (h : zs.get? n = some z) : z ∈ zs :=
  List.mem_of_find?_eq_some h

theorem Zones.get?_append_some {zs : Zones} {n : String} {z : Zone} {ys : Zones} (h : zs.get? n = some z) :
    (zs ++ ys).get? n = some z := by
  unfold Zones.get? at h ⊢
  rw [List.find?_append, h]
  rfl

theorem Zone.setCur_eq (z : Zone) (v : Int) :
    z.setCur v = if z.start ≤ v ∧ v ≤ z.stop + 1 then .ok { z with cur := v } else .error .zoneBounds := by
  unfold Zone.setCur
  by_cases h1 : v < z.start
  · rw [if_pos h1, if_neg fun h => Int.not_le.mpr h1 h.1]
  · by_cases h2 : v > z.stop + 1
    · rw [if_neg h1, if_pos h2, if_neg fun h => Int.not_le.mpr h2 h.2]
    · rw [if_neg h1, if_neg h2, if_pos ⟨Int.not_lt.mp h1, Int.not_lt.mp h2⟩]

/-- the update of `Zones.setCur` and `initZones`: every zone called `n` becomes `z'` -/
def Zones.replace (zs : Zones) (n : String) (z' : Zone) : Zones :=
  zs.map fun y => if y.name == n then z' else y

theorem Zones.setCur_eq {zs : Zones} {n : String} {z : Zone} (hz : zs.get? n = some z) (v : Int) :
    zs.setCur n v =
      if z.start ≤ v ∧ v ≤ z.stop + 1 then .ok (zs.replace n { z with cur := v }) else .error .zoneBounds := by
  unfold Zones.setCur
  rw [hz]
  dsimp only
  rw [Zone.setCur_eq]
  split <;> rfl

theorem Zones.setCur_ok {zs zs' : Zones} {n : String} {v : Int} (h : zs.setCur n v = .ok zs') :
    ∃ z, zs.get? n = some z ∧ z.start ≤ v ∧ v ≤ z.stop + 1 ∧
      zs' = zs.replace n { z with cur := v } := by
  cases hz : zs.get? n with
  | none =>
    unfold Zones.setCur at h
    rw [hz] at h
    cases h
  | some z =>
    rw [Zones.setCur_eq hz] at h
    split at h <;> cases h
    exact ⟨z, rfl, ‹_ ∧ _›.1, ‹_ ∧ _›.2, rfl⟩

theorem Zones.mem_replace {zs : Zones} {n : String} {z' x : Zone} (hx : x ∈ zs.replace n z') :
    x = z' ∨ x ∈ zs := by
  unfold Zones.replace at hx
  rw [List.mem_map] at hx
  obtain ⟨y, hy, rfl⟩ := hx
  split
  · exact Or.inl rfl
  · exact Or.inr hy

theorem Zones.get?_replace {zs : Zones} {n : String} {z' : Zone} (hn : z'.name = n) (m : String) :
    (zs.replace n z').get? m = (zs.get? m).map fun y => if y.name == n then z' else y := by
  unfold Zones.get? Zones.replace
  rw [List.find?_map]
  congr 2
  funext y
  show ((if y.name == n then z' else y).name == m) = (y.name == m)
  split
  next h => rw [hn, eq_of_beq h]
  next => rfl

theorem Zones.setCur_mem {zs zs' : Zones} {n : String} {v : Int} {x : Zone} (h : zs.setCur n v = .ok zs')
    (hx : x ∈ zs') :
    x ∈ zs ∨ ∃ z, zs.get? n = some z ∧ x = { z with cur := v } ∧ z.start ≤ v ∧ v ≤ z.stop + 1 := by
  obtain ⟨z, hz, h1, h2, rfl⟩ := Zones.setCur_ok h
  rcases Zones.mem_replace hx with rfl | hm
  · exact Or.inr ⟨z, hz, rfl, h1, h2⟩
  · exact Or.inl hm

theorem Zones.setCur_get? {zs zs' : Zones} {n : String} {v : Int} (h : zs.setCur n v = .ok zs') (m : String) :
    zs'.get? m = (zs.get? m).map fun y => if m = n then { y with cur := v } else y := by
  obtain ⟨z, hz, _, _, rfl⟩ := Zones.setCur_ok h
  rw [Zones.get?_replace (z' := { z with cur := v }) (Zones.get?_name (z := z) hz)]
  cases hy : zs.get? m with
  | none => rfl
  | some y =>
    -- the zone found under `m` is called `m`, so the test `y.name == n` of `replace` is the test `m = n`
    have hm := Zones.get?_name hy
    by_cases hmn : m = n
    · subst hmn
      rw [hz] at hy
      cases hy
      rw [Option.map_some, Option.map_some, if_pos (by rw [hm]; exact beq_self_eq_true m), if_pos rfl]
    · rw [Option.map_some, Option.map_some, if_neg (by rw [hm]; simpa using hmn), if_neg hmn]

theorem Zones.setCur_get?_bounds {zs zs' : Zones} {n m : String} {v : Int} {g : Zone}
    (h : zs.setCur n v = .ok zs') (hg : zs.get? m = some g) :
    ∃ g', zs'.get? m = some g' ∧ g'.start = g.start ∧ g'.stop = g.stop := by
  rw [Zones.setCur_get? h, hg]
  exact ⟨_, rfl, by split <;> rfl, by split <;> rfl⟩

/-- the address an origin directive names: absolute, or relative to the start of the current zone -/
def orgTarget (z : Zone) (zn : Option String) (v : Int) : Int :=
  match zn with | none => v | some _ => z.start + v

/-- the `match` of `firstPassStep`: address and size of a line, given the zone it is assembled in -/
def placeOf (cfg : Cfg) (zs : Zones) (L : Labels) (ln : Line) (z : Zone) : Except Err (Int × Int) :=
  let env := envOf L cfg.regs ln.scope
  let cur := z.cur
  match ln.stmt with
  | .data w vals => .ok (cur, (w * vals.length : Int))
  | .bytes bs => .ok (cur, (bs.length : Int))
  | .str raw term => .ok (cur, (((unescape raw.toList).length + term.toList.length : Nat) : Int))
  | .fill cnt _ => (valueE env cnt).bind fun n => .ok (cur, n)
  | .zerountil a => (valueE env a).bind fun t => .ok (cur, if t ≥ cur then t - cur + 1 else 0)
  | .instr _ args => .ok (cur, ((1 + args.foldl (fun s a => s + a.2) 0 : Nat) : Int))
  | .isa mn fs => (isaSize cfg mn fs).bind fun n => .ok (cur, (n : Int))
  | .org e zn =>
    (valueE env e).bind fun v =>
      let value := orgTarget z zn v
      match zs.get? "GLOBAL" with
      | none => .error .zoneDecl
      | some g =>
        if value < g.start then .error .zoneBounds
        else if value > g.stop then .error .zoneBounds
        else .ok (value, 0)
  | .align p =>
    (match p with | some e => valueE env e | none => .ok cfg.pageSize).bind fun ps =>
      if ps = 0 then .error .divZero else .ok (alignUp cur ps, 0)
  | _ => .ok (cur, 0)

def labelUpd (L : Labels) (ln : Line) (addr : Int) : Except Err Labels :=
  match ln.stmt with
  | .label name => L.set ln.scope name addr
  | _ => .ok L

theorem firstPassStep_eq (cfg : Cfg) (zs : Zones) (L : Labels) (ln : Line) :
    firstPassStep cfg (zs, L) ln =
      match zs.get? ln.zone with
      | none => .error .zoneDecl
      | some z =>
        (placeOf cfg zs L ln z).bind fun as =>
          (zs.setCur ln.zone (as.1 + as.2)).bind fun zs' =>
            (labelUpd L ln as.1).bind fun L' =>
              .ok ({ line := ln, addr := as.1, size := as.2 }, zs', L') := by
  obtain ⟨stmt, sc, zone, muted, file, cv⟩ := ln
  unfold firstPassStep
  dsimp -zeta only
  cases hz : zs.get? zone with
  | none => rfl
  | some z =>
    -- the continuations of the `do` block stay names: `jp2` is everything behind `placeOf`
    extract_lets env jp2 jp1
    show jp1 z = _
    unfold jp1 placeOf
    cases stmt
    -- five kinds bind the value of an expression (or the size of an instruction) first
    case fill cnt val => dsimp only [env]; cases valueE (envOf L cfg.regs sc) cnt <;> rfl
    case zerountil a => dsimp only [env]; cases valueE (envOf L cfg.regs sc) a <;> rfl
    case isa mn fs => dsimp only; cases isaSize cfg mn fs <;> rfl
    -- `.org` and `.align` test the value: the bind behind `placeOf` goes into the branches of the `if`
    -- (`apply_ite`; a `split` of a goal this size costs four times as much)
    case org e zn =>
      dsimp only [env]
      cases valueE (envOf L cfg.regs sc) e with
      | error er => rfl
      | ok v =>
        cases zs.get? "GLOBAL" with
        | none => rfl
        | some g =>
          show _ = (if orgTarget z zn v < g.start then Except.error Err.zoneBounds
            else if orgTarget z zn v > g.stop then Except.error Err.zoneBounds else Except.ok (orgTarget z zn v, 0)) >>= _
          rw [apply_ite (· >>= _), apply_ite (· >>= _)]
          rfl
    case align p =>
      dsimp only [env]
      cases p with
      | none => exact (apply_ite (· >>= _) _ _ _).symm
      | some e =>
        dsimp only
        cases valueE (envOf L cfg.regs sc) e with
        | error er => rfl
        | ok v => exact (apply_ite (· >>= _) _ _ _).symm
    -- the other fourteen have a size that is read off the statement: both sides compute to the same term
    all_goals rfl

theorem firstPassStep_ok {cfg : Cfg} {zs : Zones} {L : Labels} {ln : Line} {p : Placed} {zs' : Zones}
    {L' : Labels} (h : firstPassStep cfg (zs, L) ln = .ok (p, zs', L')) :
    ∃ z addr size, zs.get? ln.zone = some z ∧ placeOf cfg zs L ln z = .ok (addr, size) ∧
      zs.setCur ln.zone (addr + size) = .ok zs' ∧ labelUpd L ln addr = .ok L' ∧
      p = { line := ln, addr := addr, size := size } := by
  rw [firstPassStep_eq] at h
  split at h
  · cases h
  · rename_i z hz
    obtain ⟨⟨addr, size⟩, hp, h⟩ := bind_eq_ok h
    obtain ⟨zs1, hs, h⟩ := bind_eq_ok h
    obtain ⟨L1, hl, h⟩ := bind_eq_ok h
    cases h
    exact ⟨z, addr, size, hz, hp, hs, hl, rfl⟩

theorem placeOf_org {cfg : Cfg} {zs : Zones} {L : Labels} {ln : Line} {z : Zone} {e : E} {zn : Option String}
    {v a s : Int} (hs : ln.stmt = .org e zn) (hv : valueE (envOf L cfg.regs ln.scope) e = .ok v)
    (h : placeOf cfg zs L ln z = .ok (a, s)) :
    a = orgTarget z zn v ∧ s = 0 ∧ ∃ g, zs.get? "GLOBAL" = some g ∧ g.start ≤ a ∧ a ≤ g.stop := by
  simp only [placeOf, hs, hv, Except.bind] at h
  generalize orgTarget z zn v = value at h ⊢
  cases hg : zs.get? "GLOBAL" with
  | none => rw [hg] at h; cases h
  | some g =>
    rw [hg] at h
    obtain ⟨h1, h⟩ := ite_error_eq_ok h
    obtain ⟨h2, h⟩ := ite_error_eq_ok h
    cases h
    exact ⟨rfl, rfl, g, rfl, Int.not_lt.mp h1, Int.not_lt.mp h2⟩

theorem firstPassStep_outside {cfg : Cfg} {zs : Zones} {L : Labels} {ln : Line} {z : Zone} {a s : Int}
    (hz : zs.get? ln.zone = some z) (hp : placeOf cfg zs L ln z = .ok (a, s))
    (hout : a + s < z.start ∨ z.stop + 1 < a + s) :
    firstPassStep cfg (zs, L) ln = .error .zoneBounds := by
  rw [firstPassStep_eq, hz]
  simp only [hp, Except.bind]
  rw [Zones.setCur_eq hz, if_neg (by omega)]

theorem placeOf_spec {cfg : Cfg} {zs : Zones} {L : Labels} {ln : Line} {z : Zone} {a s : Int}
    (h : placeOf cfg zs L ln z = .ok (a, s)) :
    ((∀ e zn, ln.stmt ≠ .org e zn) → (∀ p, ln.stmt ≠ .align p) → a = z.cur) ∧
      (isByteLine ln.stmt = false → s = 0) := by
  have h₀ := h
  unfold placeOf at h
  -- the nine arms of `placeOf` and its default, which answers `(z.cur, 0)`
  split at h
  next hs => cases h; rw [hs]; exact ⟨fun _ _ => rfl, nofun⟩
  next hs => cases h; rw [hs]; exact ⟨fun _ _ => rfl, nofun⟩
  next hs => cases h; rw [hs]; exact ⟨fun _ _ => rfl, nofun⟩
  next hs =>
    obtain ⟨n, _, h⟩ := bind_eq_ok h
    cases h; rw [hs]; exact ⟨fun _ _ => rfl, nofun⟩
  next hs =>
    obtain ⟨t, _, h⟩ := bind_eq_ok h
    cases h; rw [hs]; exact ⟨fun _ _ => rfl, nofun⟩
  next hs => cases h; rw [hs]; exact ⟨fun _ _ => rfl, nofun⟩
  next hs =>
    obtain ⟨n, _, h⟩ := bind_eq_ok h
    cases h; rw [hs]; exact ⟨fun _ _ => rfl, nofun⟩
  next e zn hs =>
    obtain ⟨v, hv, _⟩ := bind_eq_ok h
    exact ⟨fun ho _ => absurd hs (ho e zn), fun _ => (placeOf_org hs hv h₀).2.1⟩
  next p hs =>
    obtain ⟨ps, _, h⟩ := bind_eq_ok h
    split at h <;> cases h
    exact ⟨fun _ ha => absurd hs (ha p), fun _ => rfl⟩
  next => cases h; exact ⟨fun _ _ => rfl, fun _ => rfl⟩

theorem placeOf_byte_addr {cfg : Cfg} {zs : Zones} {L : Labels} {ln : Line} {z : Zone} {a s : Int}
    (hb : isByteLine ln.stmt = true) (h : placeOf cfg zs L ln z = .ok (a, s)) : a = z.cur :=
  -- `.org` and `.align` are not byte lines
  (placeOf_spec h).1 (fun _ _ hs => by rw [hs] at hb; cases hb) (fun _ hs => by rw [hs] at hb; cases hb)

theorem labelUpd_label {L : Labels} {ln : Line} {a : Int} {name : String} (hs : ln.stmt = .label name) :
    labelUpd L ln a = L.set ln.scope name a := by
  simp only [labelUpd, hs]

theorem labelUpd_other {L : Labels} {ln : Line} {a : Int} (hs : ∀ name, ln.stmt ≠ .label name) :
    labelUpd L ln a = .ok L := by
  unfold labelUpd
  split
  · rename_i name h; exact absurd h (hs name)
  · rfl

/-- an ISA statement (instruction or macro invocation) emits as many bytes as were reserved
    for it from selection alone, for every label environment and address -/
theorem isaBytes_length {cfg : Cfg} {env : String → Option Int} {addr : Int} {mn : String} {fs : List Form}
    {bs : List Nat} {n : Nat} (hs : isaSize cfg mn fs = .ok n) (hb : isaBytes cfg env addr mn fs = .ok bs) :
    bs.length = n := by
  -- both look the mnemonic up among the instructions first, then among the macros
  unfold isaSize at hs
  unfold isaBytes at hb
  cases ht : cfg.tbl.find? (·.1 == mn) with
  | some xv =>
    simp only [ht] at hs hb
    rw [map_eq] at hb
    obtain ⟨⟨i, b⟩, ha, hb⟩ := bind_eq_ok hb
    cases hb
    obtain ⟨v, m, hsel, hlen⟩ := assembleStmt_length ha
    rw [hsel] at hs; cases hs
    exact hlen
  | none =>
    simp only [ht] at hs hb
    cases hm : cfg.macros.find? (·.1 == mn) with
    | none => rw [hm] at hs; cases hs
    | some xm =>
      simp only [hm] at hs hb
      rw [map_eq] at hb
      obtain ⟨⟨i, b⟩, ha, hb⟩ := bind_eq_ok hb
      cases hb
      obtain ⟨⟨j, steps⟩, he, ha⟩ := bind_eq_ok ha
      obtain ⟨b', hst, ha⟩ := bind_eq_ok ha
      cases ha
      obtain ⟨sizes, hsz, hsum⟩ := assembleSteps_length hst
      rw [he] at hs
      simp only [hsz] at hs
      cases hs
      exact hsum

/-- reserved = emitted for one line: placed with the labels `L` of the first pass, emitted with any labels `L₂` -/
theorem lineBytes_length {cfg : Cfg} {zs : Zones} {L L₂ : Labels} {ln : Line} {z : Zone} {a s : Int}
    {bs : List Nat} (hp : placeOf cfg zs L ln z = .ok (a, s))
    (hb : lineBytes cfg L₂ { line := ln, addr := a, size := s } = .ok bs)
    (hbyte : isByteLine ln.stmt = true) : bs.length = s.toNat := by
  obtain ⟨stmt, sc, zone, muted, file, cv⟩ := ln
  cases stmt <;> cases hbyte <;> simp only [placeOf] at hp <;> simp only [lineBytes] at hb
  case data w vals =>
    cases hp
    obtain ⟨vs, hm, hb⟩ := bind_eq_ok hb
    cases hb
    rw [flatMap_wordBytes_length, mapM_ok_length hm, ← Int.natCast_mul, Int.toNat_natCast]
  case bytes bl =>
    cases hp; cases hb
    rw [List.length_map, Int.toNat_natCast]
  case str raw term =>
    cases hp; cases hb
    rw [List.length_append, List.length_map, List.length_map, Int.toNat_natCast]
  case fill cnt val =>
    obtain ⟨n, _, hp⟩ := bind_eq_ok hp
    obtain ⟨v, _, hb⟩ := bind_eq_ok hb
    cases hp; cases hb
    rw [List.length_replicate]
  case zerountil t =>
    obtain ⟨n, _, hp⟩ := bind_eq_ok hp
    cases hp; cases hb
    rw [List.length_replicate]
  case instr opc args =>
    cases hp
    obtain ⟨bl, hm, hb⟩ := bind_eq_ok hb
    cases hb
    -- each argument emits its declared width, so the lengths of the pieces are the second components of `args`
    have hlen : bl.map List.length = args.map (·.2) := by
      refine mapM_ok_map ?_ hm
      intro ⟨e, w⟩ b hb
      obtain ⟨v, _, hb⟩ := bind_eq_ok hb
      split at hb <;> cases hb
      exact wordBytes_length w cfg.little v
    rw [List.length_cons, List.length_flatten, hlen, List.sum_eq_foldl_nat, List.foldl_map, Int.toNat_natCast,
      Nat.add_comm]
  case isa mn fs =>
    obtain ⟨n, hsz, hp⟩ := bind_eq_ok hp
    cases hp
    rw [isaBytes_length hsz hb, Int.toNat_natCast]

theorem lineBytes_nonbyte {cfg : Cfg} {L₂ : Labels} {ln : Line} {a s : Int}
    (hbyte : isByteLine ln.stmt = false) :
    lineBytes cfg L₂ { line := ln, addr := a, size := s } = .ok [] := by
  obtain ⟨stmt, sc, zone, muted, file, cv⟩ := ln
  cases stmt <;> cases hbyte <;> rfl

theorem firstPass_cons_ok {cfg : Cfg} {ln : Line} {rest : List Line} {st : Zones × Labels}
    {out : List Placed} {zs : Zones} {L : Labels} (h : firstPass cfg (ln :: rest) st = .ok (out, zs, L)) :
    ∃ p zs1 L1 ps, firstPassStep cfg st ln = .ok (p, zs1, L1) ∧
      firstPass cfg rest (zs1, L1) = .ok (ps, zs, L) ∧ out = p :: ps := by
  obtain ⟨⟨p, zs1, L1⟩, h1, h⟩ := bind_eq_ok h
  obtain ⟨⟨ps, zs2, L2⟩, h2, h⟩ := bind_eq_ok h
  cases h
  exact ⟨p, zs1, L1, ps, h1, h2, rfl⟩

theorem firstPass_length {cfg : Cfg} : ∀ (lines : List Line) (st : Zones × Labels) (out : List Placed)
    (zs : Zones) (L : Labels), firstPass cfg lines st = .ok (out, zs, L) → out.length = lines.length := by
  intro lines
  induction lines with
  | nil => intro st out zs L h; rw [firstPass] at h; cases h; rfl
  | cons ln rest ih =>
    intro st out zs L h
    obtain ⟨p, zs1, L1, ps, _, h2, rfl⟩ := firstPass_cons_ok h
    rw [List.length_cons, List.length_cons, ih _ _ _ _ h2]

theorem firstPass_append_ok {cfg : Cfg} {l₁ l₂ : List Line} {st : Zones × Labels} {out : List Placed}
    {zs : Zones} {L : Labels} (h : firstPass cfg (l₁ ++ l₂) st = .ok (out, zs, L)) :
    ∃ out₁ zs1 L1 out₂, firstPass cfg l₁ st = .ok (out₁, zs1, L1) ∧
      firstPass cfg l₂ (zs1, L1) = .ok (out₂, zs, L) ∧ out = out₁ ++ out₂ := by
  induction l₁ generalizing st out with
  | nil => exact ⟨[], st.1, st.2, out, rfl, h, rfl⟩
  | cons ln l₁ ih =>
    obtain ⟨p, zs1, L1, ps, h1, h2, rfl⟩ := firstPass_cons_ok h
    obtain ⟨out₁, zs2, L2, out₂, ha, hb, rfl⟩ := ih h2
    refine ⟨p :: out₁, zs2, L2, out₂, ?_, hb, rfl⟩
    rw [firstPass, h1, ok_bind]
    dsimp only
    rw [ha]
    rfl

theorem firstPass_invariant {cfg : Cfg} (I : Zones → Labels → Prop) {lines : List Line} {st : Zones × Labels}
    {out : List Placed} {zsF : Zones} {LF : Labels}
    (step : ∀ ln ∈ lines, ∀ zs L p zs' L', I zs L → firstPassStep cfg (zs, L) ln = .ok (p, zs', L') → I zs' L')
    (h : firstPass cfg lines st = .ok (out, zsF, LF)) (hi : I st.1 st.2) : I zsF LF := by
  induction lines generalizing st out with
  | nil => rw [firstPass] at h; cases h; exact hi
  | cons ln rest ih =>
    obtain ⟨p, zs1, L1, ps, h1, h2, _⟩ := firstPass_cons_ok h
    exact ih (fun l hl => step l (List.mem_cons_of_mem _ hl)) h2
      (step ln List.mem_cons_self st.1 st.2 p zs1 L1 hi h1)

theorem mkZone_ok {bits : Nat} {name : String} {s e : Int} {z : Zone} (h : mkZone bits name s e = .ok z) :
    z = { name := name, start := s, stop := e, cur := s } ∧ 0 ≤ s ∧ s ≤ e ∧ e ≤ (2 : Int) ^ bits - 1 := by
  unfold mkZone at h
  obtain ⟨h1, h⟩ := ite_error_eq_ok h
  obtain ⟨h2, h⟩ := ite_error_eq_ok h
  obtain ⟨h3, h⟩ := ite_error_eq_ok h
  cases h
  exact ⟨rfl, Int.not_lt.mp h2, Int.not_lt.mp h3, Int.not_lt.mp h1⟩

theorem mkZone_of_bounds {bits : Nat} {name : String} {s e : Int} (h0 : 0 ≤ s) (h1 : s ≤ e)
    (h2 : e ≤ (2 : Int) ^ bits - 1) :
    mkZone bits name s e = .ok { name := name, start := s, stop := e, cur := s } := by
  unfold mkZone
  rw [if_neg (Int.not_lt.mpr h2), if_neg (Int.not_lt.mpr h0), if_neg (Int.not_lt.mpr h1)]

theorem createZone_ok {bits : Nat} {zs zs' : Zones} {name : String} {s e : Int}
    (h : createZone bits zs name s e = .ok zs') :
    ∃ g z, zs.get? name = none ∧ zs.get? "GLOBAL" = some g ∧ g.start ≤ s ∧ e ≤ g.stop ∧
      mkZone bits name s e = .ok z ∧ zs' = zs ++ [z] := by
  unfold createZone at h
  obtain ⟨hn, h⟩ := ite_error_eq_ok h
  cases hg : zs.get? "GLOBAL" with
  | none => rw [hg] at h; cases h
  | some g =>
    rw [hg] at h
    obtain ⟨h1, h⟩ := ite_error_eq_ok h
    obtain ⟨h2, h⟩ := ite_error_eq_ok h
    obtain ⟨z, hm, h⟩ := bind_eq_ok h
    cases h
    exact ⟨g, z, by simpa using hn, rfl, Int.not_lt.mp h1, Int.not_lt.mp h2, hm, rfl⟩

theorem emitAll_cons_ok {cfg : Cfg} {L : Labels} {p : Placed} {ps : List Placed} {es : List Emitted}
    (h : emitAll cfg L (p :: ps) = .ok es) :
    ∃ bs es', lineBytes cfg L p = .ok bs ∧ emitAll cfg L ps = .ok es' ∧
      es = { addr := p.addr, size := p.size, bytes := bs, muted := p.line.muted,
             isByte := isByteLine p.line.stmt } :: es' := by
  obtain ⟨bs, hb, h⟩ := bind_eq_ok h
  obtain ⟨es', he, h⟩ := bind_eq_ok h
  cases h
  exact ⟨bs, es', hb, he, rfl⟩

theorem assemblePlaced_ok {cfg : Cfg} {files : List (List Stmt)} {sorted : List Placed} {L : Labels}
    (h : assemblePlaced cfg files = .ok (sorted, L)) :
    ∃ L0 zs0 lines st placed zs, initLabels cfg = .ok L0 ∧
      initZones cfg.bits cfg.origin cfg.preZones = .ok zs0 ∧
      readFile cfg files (files.length + 1) 0
        { labels := L0, zones := zs0, used := [], nextLoc := 0, syms := cfg.preSyms } = .ok (lines, st) ∧
      firstPass cfg lines (st.zones, st.labels) = .ok (placed, zs, L) ∧
      sorted = sortByAddr (placed ++ predefinedLines cfg) := by
  obtain ⟨L0, h0, h⟩ := bind_eq_ok h
  obtain ⟨zs0, hz, h⟩ := bind_eq_ok h
  obtain ⟨⟨lines, st⟩, hr, h⟩ := bind_eq_ok h
  obtain ⟨⟨placed, zs, L'⟩, hf, h⟩ := bind_eq_ok h
  cases h
  exact ⟨L0, zs0, lines, st, placed, zs, h0, hz, hr, hf, rfl⟩

theorem assembleLines_ok {cfg : Cfg} {files : List (List Stmt)} {es : List Emitted} {L : Labels}
    (h : assembleLines cfg files = .ok (es, L)) :
    ∃ sorted, assemblePlaced cfg files = .ok (sorted, L) ∧ emitAll cfg L sorted = .ok es := by
  obtain ⟨⟨sorted, L'⟩, hp, h⟩ := bind_eq_ok h
  obtain ⟨es', he, h⟩ := bind_eq_ok h
  cases h
  exact ⟨sorted, hp, he⟩

theorem assemble_ok {cfg : Cfg} {files : List (List Stmt)} {start : Int} {stop : Option Int} {fill : Nat}
    {o : Outcome} (h : assemble cfg files start stop fill = .ok o) :
    ∃ es L, assembleLines cfg files = .ok (es, L) ∧ overlapCheck none es = .ok () ∧
      o = { image := imageOf start stop (fill % 256) (memMap es), emitted := es, labels := L } := by
  obtain ⟨⟨es, L⟩, hl, h⟩ := bind_eq_ok h
  obtain ⟨u, ho, h⟩ := bind_eq_ok h
  cases h
  exact ⟨es, L, hl, ho, rfl⟩

end BV
