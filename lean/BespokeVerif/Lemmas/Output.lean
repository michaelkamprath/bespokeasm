/-
  C16: the decoders of the text formats (`Model/Output.lean`) against their reference encoders. The decoders
  that go row by row (`recsToMap`, `mhRowsToMap`, `outLinesMap`) append the same term per row: `rowMap`.
-/
import BespokeVerif.Model.Output
namespace BV

def rowMap (a : Int) (bs : List Nat) : AddrMap :=
  (List.range bs.length).map fun (i : Nat) => (a + (i : Int), bs[i]!)

theorem rowMap_nil (a : Int) : rowMap a [] = [] := rfl

theorem rowMap_cons (a : Int) (b : Nat) (bs : List Nat) :
    rowMap a (b :: bs) = (a, b) :: rowMap (a + 1) bs := by
  unfold rowMap
  rw [List.length_cons, List.range_succ_eq_map, List.map_cons, List.map_map]
  congr 1
  · rw [Int.natCast_zero, Int.add_zero]; rfl
  · apply List.map_congr_left
    intro i _
    show (a + ((i + 1 : Nat) : Int), bs[i]!) = _
    rw [Int.natCast_add, Int.add_comm (i : Int), ← Int.add_assoc]; rfl

theorem rowMap_append (a : Int) (xs ys : List Nat) :
    rowMap a (xs ++ ys) = rowMap a xs ++ rowMap (a + (xs.length : Int)) ys := by
  induction xs generalizing a with
  | nil => rw [List.nil_append, rowMap_nil, List.nil_append, List.length_nil, Int.natCast_zero, Int.add_zero]
  | cons x xs ih =>
    rw [List.cons_append, rowMap_cons, rowMap_cons, ih, List.cons_append, List.length_cons,
      Int.natCast_add, Int.add_assoc, Int.add_comm 1]; rfl

theorem rowMap_take_drop {a : Int} {bs : List Nat} {n : Nat} (h : n ≤ bs.length) :
    rowMap a (bs.take n) ++ rowMap (a + (n : Int)) (bs.drop n) = rowMap a bs := by
  have := rowMap_append a (bs.take n) (bs.drop n)
  rwa [List.take_append_drop, List.length_take, Nat.min_eq_left h, eq_comm] at this

theorem recsToMap_data {r : IRec} {rest : List IRec} {base : Int} {m : AddrMap} (h : r.typ = 0) :
    recsToMap (r :: rest) base m = recsToMap rest base (m ++ rowMap (base + (r.addr : Int)) r.data) := by
  rw [recsToMap, if_pos h]; rfl

theorem recsToMap_ext {r : IRec} {rest : List IRec} {base : Int} {m : AddrMap} (h : r.typ = 4) :
    recsToMap (r :: rest) base m = recsToMap rest ((r.data[0]! * 256 + r.data[1]! : Nat) * 65536) m := by
  rw [recsToMap, h]
  rfl

theorem mhRowsToMap_bytes (bs : List Nat) (rest : List MHRow) (a : Int) (m : AddrMap) :
    mhRowsToMap (.bytes bs :: rest) a m = mhRowsToMap rest (a + (bs.length : Int)) (m ++ rowMap a bs) := rfl

theorem outLinesMap_bytes (a : Int) (bs : List Nat) (rest : List OutLine) :
    outLinesMap (.bytes a bs false :: rest) = rowMap a bs ++ outLinesMap rest := by
  rw [outLinesMap]; rfl

theorem outLinesMap_skip {x : OutLine} (h : ∀ a bs, x ≠ .bytes a bs false) (rest : List OutLine) :
    outLinesMap (x :: rest) = outLinesMap rest :=
  outLinesMap.eq_3 x rest h

theorem outLinesMap_append (xs ys : List OutLine) :
    outLinesMap (xs ++ ys) = outLinesMap xs ++ outLinesMap ys := by
  fun_induction outLinesMap xs with
  | case1 => rfl
  | case2 a bs rest ih => rw [List.cons_append, outLinesMap_bytes, ih, List.append_assoc]; rfl
  | case3 x rest hx ih => rw [List.cons_append, outLinesMap_skip hx, ih]

theorem hexDigitChar_facts : ∀ d < 16, isHexDigit (hexDigitChar d) = true ∧ hexVal (hexDigitChar d) = d := by
  decide +kernel

theorem parseHexPairs_hexByte_cons {b : Nat} (hb : b < 256) (rest : List Char) :
    parseHexPairs (hexByte b ++ rest) = (parseHexPairs rest).map (fun l => b :: l) := by
  obtain ⟨hi₁, hv₁⟩ := hexDigitChar_facts (b / 16 % 16) (Nat.mod_lt _ (by decide))
  obtain ⟨hi₂, hv₂⟩ := hexDigitChar_facts (b % 16) (Nat.mod_lt _ (by decide))
  show parseHexPairs (hexDigitChar (b / 16 % 16) :: hexDigitChar (b % 16) :: rest) = _
  rw [parseHexPairs, hi₁, hi₂, hv₁, hv₂, Nat.mod_eq_of_lt ((Nat.div_lt_iff_lt_mul (by decide)).2 hb),
    Nat.div_add_mod']
  rfl

theorem parseHexPairs_flatMap_hexByte {bs : List Nat} (h : ∀ b ∈ bs, b < 256) :
    parseHexPairs (bs.flatMap hexByte) = some bs := by
  induction bs with
  | nil => rfl
  | cons b bs ih =>
    rw [List.flatMap_cons, parseHexPairs_hexByte_cons (h b (List.mem_cons_self ..)),
      ih (fun x hx => h x (List.mem_cons_of_mem _ hx))]
    rfl

theorem foldl_add_eq (l : List Nat) (k : Nat) : l.foldl (· + ·) k = k + l.foldl (· + ·) 0 := by
  induction l generalizing k with
  | nil => rfl
  | cons x xs ih => rw [List.foldl_cons, List.foldl_cons, ih (k + x), ih (0 + x), Nat.zero_add, Nat.add_assoc]

theorem parseIRec_hex {len ah al typ : Nat} {data : List Nat} {c : Nat}
    (hlen : len < 256) (hah : ah < 256) (hal : al < 256) (htyp : typ < 256) (hdata : ∀ b ∈ data, b < 256)
    (hc : c < 256) :
    parseIRec (':' :: (len :: ah :: al :: typ :: (data ++ [c])).flatMap hexByte) =
      if data.length ≠ len then .error .other
      else if c ≠ IRec.checksum ⟨ah * 256 + al, typ, data⟩ then .error .other
      else .ok (IRec.mk (ah * 256 + al) typ data) := by
  have hall : ∀ b ∈ len :: ah :: al :: typ :: (data ++ [c]), b < 256 :=
    List.forall_mem_cons.2 ⟨hlen, List.forall_mem_cons.2 ⟨hah, List.forall_mem_cons.2 ⟨hal,
      List.forall_mem_cons.2 ⟨htyp, List.forall_mem_append.2 ⟨hdata, List.forall_mem_singleton.2 hc⟩⟩⟩⟩⟩
  rw [parseIRec, parseHexPairs_flatMap_hexByte hall]
  -- the match on the parsed bytes and the `let`s reduce; the `tail` of `parseIRec` is `data ++ [c]`
  dsimp only
  rw [List.length_append, List.length_singleton, List.getLast?_concat, Option.getD_some]
  by_cases hl : data.length = len
  · subst hl
    rw [List.take_left, if_neg (fun h : data.length + 1 ≠ data.length + 1 => h rfl),
      if_neg (fun h : data.length ≠ data.length => h rfl)]
  · rw [if_pos (fun h => hl (Nat.succ.inj h)), if_pos hl]

theorem parseIRec_bytes {r : IRec} (h1 : r.addr < 65536) (h2 : r.typ < 256) (h3 : r.data.length < 256)
    (h4 : ∀ b ∈ r.data, b < 256) (c : Nat) (hc : c < 256) :
    parseIRec (':' :: (r.bytes ++ [c]).flatMap hexByte) =
      if c ≠ r.checksum then .error .other else .ok r := by
  have h256 : 0 < 256 := by decide
  show parseIRec (':' :: (r.data.length % 256 :: r.addr / 256 % 256 :: r.addr % 256 :: r.typ % 256 ::
    (r.data ++ [c])).flatMap hexByte) = _
  rw [parseIRec_hex (Nat.mod_lt _ h256) (Nat.mod_lt _ h256) (Nat.mod_lt _ h256) (Nat.mod_lt _ h256)
      h4 hc,
    Nat.mod_eq_of_lt h3, Nat.mod_eq_of_lt h2, Nat.mod_eq_of_lt ((Nat.div_lt_iff_lt_mul (by decide)).2 h1),
    Nat.div_add_mod', if_neg (fun h => h rfl)]

/-- All that decoding needs of the record size `min (min 16 length) (65536 - a % 65536)` is
    `1 ≤ n ≤ length`. -/
theorem encRun_cons (fuel a : Nat) (b : Nat) (bs : List Nat) (up : Option Nat) :
    ∃ n, 1 ≤ n ∧ n ≤ (b :: bs).length ∧
    encRun (fuel + 1) a (b :: bs) up =
      ((if up = some (a / 65536) then []
          else [{ addr := 0, typ := 4, data := [a / 65536 / 256 % 256, a / 65536 % 256] }]) ++
        [{ addr := a % 65536, typ := 0, data := (b :: bs).take n }] ++
        (encRun fuel (a + n) ((b :: bs).drop n) (some (a / 65536))).1,
       (encRun fuel (a + n) ((b :: bs).drop n) (some (a / 65536))).2) := by
  refine ⟨min (min 16 (b :: bs).length) (65536 - a % 65536), ?_, ?_, ?_⟩
  · exact Nat.le_min.2 ⟨Nat.le_min.2 ⟨by decide, Nat.succ_pos _⟩, Nat.sub_pos_of_lt (Nat.mod_lt _ (by decide))⟩
  · exact Nat.le_trans (Nat.min_le_left _ _) (Nat.min_le_right _ _)
  · rw [encRun]
    exact fun h => List.cons_ne_nil _ _ h

/-- the extended-address record that `encRun` puts out when the upper half changes -/
theorem recsToMap_pre {hi : Nat} (h : hi < 65536) {up : Option Nat} {base : Int}
    (hb : ∀ hi, up = some hi → base = (hi : Int) * 65536) (rest : List IRec) (m : AddrMap) :
    recsToMap ((if up = some hi then []
          else [{ addr := 0, typ := 4, data := [hi / 256 % 256, hi % 256] }]) ++ rest) base m
      = recsToMap rest ((hi : Int) * 65536) m := by
  split
  · next h => rw [hb _ h]; rfl
  · rw [List.singleton_append, recsToMap_ext rfl]
    show recsToMap rest ((hi / 256 % 256 * 256 + hi % 256 : Nat) * 65536) m = _
    rw [Nat.mod_eq_of_lt ((Nat.div_lt_iff_lt_mul (by decide)).2 h), Nat.div_add_mod']

/-- `up` is the upper half the last type-04 record announced, and `hb` says the decoder's `base` agrees with
    it; `2 ^ 32` is what the two bytes of a type-04 record can address -/
theorem recsToMap_encRun_gen {fuel : Nat} {bs : List Nat} {a : Nat} {up : Option Nat} {base : Int}
    {m : AddrMap} (hl : bs.length ≤ fuel) (h32 : a + bs.length ≤ 2 ^ 32)
    (hb : ∀ hi, up = some hi → base = (hi : Int) * 65536) :
    recsToMap (encRun fuel a bs up).1 base m = m ++ rowMap a bs := by
  induction fuel generalizing bs a up base m with
  | zero =>
    rw [List.eq_nil_of_length_eq_zero (Nat.le_zero.1 hl)]
    exact (List.append_nil m).symm
  | succ fuel ih =>
    cases bs with
    | nil => exact (List.append_nil m).symm
    | cons b bs =>
      obtain ⟨n, hn1, hn2, e⟩ := encRun_cons fuel a b bs up
      have hhi : a / 65536 < 65536 :=
        (Nat.div_lt_iff_lt_mul (by decide)).2 (Nat.lt_of_lt_of_le (Nat.lt_add_of_pos_right (Nat.succ_pos _)) h32)
      have haddr : ((a / 65536 : Nat) : Int) * 65536 + ((a % 65536 : Nat) : Int) = (a : Int) :=
        congrArg Nat.cast (Nat.div_add_mod' a 65536)
      -- the rest of the run is shorter by `n ≥ 1`, so the fuel lasts, and it ends where the run ends
      have hl' : ((b :: bs).drop n).length ≤ fuel := by
        rw [List.length_drop]
        exact Nat.sub_le_of_le_add (Nat.le_trans hl (Nat.add_le_add_left hn1 fuel))
      have h32' : a + n + ((b :: bs).drop n).length ≤ 2 ^ 32 := by
        rw [List.length_drop, Nat.add_assoc, Nat.add_sub_cancel' hn2]
        exact h32
      rw [e, List.append_assoc, recsToMap_pre hhi hb, List.singleton_append,
        recsToMap_data rfl, ih hl' h32' (by intro hi h; cases h; rfl)]
      -- the record holds the first `n` bytes at `a`, the rest of the run follows at `a + n`
      show m ++ rowMap (((a / 65536 : Nat) : Int) * 65536 + ((a % 65536 : Nat) : Int)) ((b :: bs).take n) ++ _ = _
      rw [haddr, List.append_assoc, Int.natCast_add, rowMap_take_drop hn2]

theorem mhRowsToMap_bytes_rows {ι : Type} (f : ι → List Nat) (l : List ι) (rest : List MHRow) (a : Int)
    (m : AddrMap) :
    mhRowsToMap (l.map (fun i => MHRow.bytes (f i)) ++ rest) a m =
      mhRowsToMap rest (a + ((l.map f).flatten.length : Int)) (m ++ rowMap a (l.map f).flatten) := by
  induction l generalizing a m with
  | nil =>
    rw [List.map_nil, List.map_nil, List.flatten_nil, rowMap_nil, List.append_nil, List.length_nil,
      Int.natCast_zero, Int.add_zero]
    rfl
  | cons i l ih =>
    rw [List.map_cons, List.cons_append, mhRowsToMap_bytes, ih, List.map_cons, List.flatten_cons, rowMap_append,
      List.length_append, Int.natCast_add, Int.add_assoc, List.append_assoc]

theorem flatten_chunks (w : Nat) (all : List Nat) (k : Nat) :
    ((List.range k).map fun i => (all.drop (w * i)).take w).flatten = all.take (w * k) := by
  induction k with
  | zero => rfl
  | succ k ih =>
    rw [List.range_succ, List.map_append, List.flatten_append, ih, Nat.mul_succ, List.take_add]
    simp only [List.map_cons, List.map_nil, List.flatten_cons, List.flatten_nil, List.append_nil]

theorem mhRowsToMap_flush (cur : List Nat) (rest : List MHRow) (a : Int) (m : AddrMap) :
    mhRowsToMap ((if cur.isEmpty then [] else [.bytes cur]) ++ rest) a m =
      mhRowsToMap rest (a + (cur.length : Int)) (m ++ rowMap a cur) := by
  cases cur with
  | nil => rw [rowMap_nil, List.append_nil, List.length_nil, Int.natCast_zero, Int.add_zero]; rfl
  | cons b bs => rfl

/-- `cur` is the unfinished row, `a` the address of its first byte, `run` the address the next byte gets
    when no `.org` intervenes (`everyGapHasOrg`'s running address) -/
theorem minhex_roundtrip_gen {ols : List OutLine} (cur : List Nat) {a run : Int} {m : AddrMap}
    (hg : everyGapHasOrg ols run = true) (hrun : a + (cur.length : Int) = run)
    (hnn : ∀ x, OutLine.org x ∈ ols → 0 ≤ x) :
    mhRowsToMap (encMinHex ols cur) a m = m ++ rowMap a cur ++ outLinesMap ols := by
  induction ols generalizing cur a run m with
  | nil =>
    have := mhRowsToMap_flush cur [] a m
    rw [List.append_nil] at this
    rw [encMinHex, this, outLinesMap, List.append_nil]; rfl
  | cons x ols ih =>
    have hnn' : ∀ x, OutLine.org x ∈ ols → 0 ≤ x := fun y hy => hnn y (List.mem_cons_of_mem _ hy)
    cases x with
    | bytes a' bs mu =>
      cases mu
      · simp only [everyGapHasOrg, Bool.and_eq_true, beq_iff_eq] at hg
        obtain ⟨ha', hg⟩ := hg
        subst ha'
        rw [encMinHex]
        generalize (cur ++ bs).length / 16 = k
        have hlen : (((cur ++ bs).take (16 * k)).length : Int) + (((cur ++ bs).drop (16 * k)).length : Int) =
            (cur.length : Int) + (bs.length : Int) := by
          rw [← Int.natCast_add, ← List.length_append, List.take_append_drop, List.length_append, Int.natCast_add]
        -- the full rows and the unfinished one together are `cur ++ bs`, however many full rows were cut
        rw [mhRowsToMap_bytes_rows, flatten_chunks,
          ih _ hg (by rw [Int.add_assoc, hlen, ← Int.add_assoc, hrun]) hnn',
          List.append_assoc m, ← rowMap_append, List.take_append_drop, rowMap_append, hrun,
          outLinesMap_bytes, List.append_assoc, List.append_assoc, List.append_assoc]
      · rw [everyGapHasOrg] at hg
        rw [encMinHex, outLinesMap_skip (fun _ _ h => by cases h)]
        exact ih _ hg hrun hnn'
    | org a' =>
      rw [everyGapHasOrg] at hg
      have h0 : ((a'.toNat : Nat) : Int) = a' := Int.toNat_of_nonneg (hnn a' (List.mem_cons_self ..))
      rw [encMinHex, List.append_assoc, mhRowsToMap_flush, List.singleton_append, mhRowsToMap, h0,
        ih [] hg (Int.add_zero _) hnn', rowMap_nil, List.append_nil,
        outLinesMap_skip (fun _ _ h => by cases h)]
    | other a' =>
      rw [everyGapHasOrg] at hg
      rw [encMinHex, outLinesMap_skip (fun _ _ h => by cases h)]
      exact ih _ hg hrun hnn'

end BV
