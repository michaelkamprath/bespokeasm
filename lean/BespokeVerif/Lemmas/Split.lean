/-
  The comma splitter of `Model/Split.lean` (C11). Its loop `splitCommasAux cur s` carries the item in progress
  reversed in `cur`; every statement about it is therefore one with `cur` general (`join_aux`: joining gives the
  text back; `no_quote_aux`: without quotes it is the plain split; `items_aux`: items built from quoted
  characters and from characters other than comma and quote come back as they were), and `consHead` moves `cur` to the front of the result.
-/
import BespokeVerif.Model.Split
namespace BV
namespace SplitLemmas

theorem aux_nil (cur : List Char) : splitCommasAux cur [] = [cur.reverse] := rfl

theorem aux_quoted (cur : List Char) (c : Char) (rest : List Char) :
    splitCommasAux cur ('\'' :: c :: '\'' :: rest) = splitCommasAux ('\'' :: c :: '\'' :: cur) rest := rfl

theorem aux_comma (cur rest : List Char) : splitCommasAux cur (',' :: rest) = cur.reverse :: splitCommasAux [] rest := rfl

theorem aux_other {cur : List Char} {c : Char} {rest : List Char} (hc : c ≠ ',') (hq : c ≠ '\'') :
    splitCommasAux cur (c :: rest) = splitCommasAux (c :: cur) rest := by
  rw [splitCommasAux]
  · intro c' rest' h _
    exact hq h
  · intro h
    exact hc h

theorem aux_ne_nil {cur s : List Char} : splitCommasAux cur s ≠ [] := by
  fun_induction splitCommasAux cur s <;> simp_all

theorem aux_plain (cur : List Char) {a : List Char} (r : List Char) (h : ∀ c ∈ a, c ≠ ',' ∧ c ≠ '\'') :
    splitCommasAux cur (a ++ r) = splitCommasAux (a.reverse ++ cur) r := by
  induction a generalizing cur with
  | nil => rfl
  | cons c a ih =>
    have hc := h c (List.mem_cons_self ..)
    rw [List.cons_append, aux_other hc.1 hc.2, ih _ fun x hx => h x (List.mem_cons_of_mem _ hx),
      List.reverse_cons, List.append_assoc]
    rfl

theorem splitCommas_single {a : List Char} (h : ∀ c ∈ a, c ≠ ',' ∧ c ≠ '\'') : splitCommas a = [a] := by
  have := aux_plain [] [] h
  rw [List.append_nil, aux_nil] at this
  simpa [splitCommas] using this

theorem splitCommas_pair {a b : List Char} (ha : ∀ c ∈ a, c ≠ ',' ∧ c ≠ '\'') (hb : ∀ c ∈ b, c ≠ ',' ∧ c ≠ '\'') :
    splitCommas (a ++ ',' :: b) = [a, b] := by
  rw [splitCommas, aux_plain [] _ ha, aux_comma, ← splitCommas, splitCommas_single hb]
  simp

theorem joinCommas_cons {x : List Char} {l : List (List Char)} (h : l ≠ []) :
    joinCommas (x :: l) = x ++ ',' :: joinCommas l := by
  cases l with
  | nil => exact absurd rfl h
  | cons y rest => rfl

theorem join_aux (cur s : List Char) : joinCommas (splitCommasAux cur s) = cur.reverse ++ s := by
  fun_induction splitCommasAux cur s with
  | case1 cur => simp [joinCommas]
  | case2 cur c rest ih => simp [ih]
  | case3 cur rest ih =>
    rw [joinCommas_cons aux_ne_nil, ih]
    simp
  | case4 cur c rest _ _ ih => simp [ih]

def consHead (p : List Char) : List (List Char) → List (List Char)
  | [] => [p]
  | x :: xs => (p ++ x) :: xs

theorem consHead_nil {l : List (List Char)} (h : l ≠ []) : consHead [] l = l := by
  cases l with
  | nil => exact absurd rfl h
  | cons x xs => rfl

theorem consHead_consHead (p q : List Char) (l : List (List Char)) :
    consHead p (consHead q l) = consHead (p ++ q) l := by
  cases l <;> simp [consHead]

theorem splitPlain_ne_nil (s : List Char) : splitPlain s ≠ [] := by
  fun_induction splitPlain s <;> simp_all

theorem splitPlain_comma (rest : List Char) : splitPlain (',' :: rest) = [] :: splitPlain rest := rfl

theorem splitPlain_other {c : Char} {rest : List Char} (hc : c ≠ ',') :
    splitPlain (c :: rest) = consHead [c] (splitPlain rest) := by
  rw [splitPlain]
  · cases splitPlain rest <;> rfl
  · intro h; exact hc h

theorem no_quote_aux (cur : List Char) {s : List Char} (h : '\'' ∉ s) :
    splitCommasAux cur s = consHead cur.reverse (splitPlain s) := by
  induction s generalizing cur with
  | nil => simp [aux_nil, splitPlain, consHead]
  | cons c rest ih =>
    have hq : c ≠ '\'' := fun e => h (by simp [e])
    have hr : '\'' ∉ rest := fun e => h (by simp [e])
    by_cases hc : c = ','
    · subst hc
      rw [aux_comma, splitPlain_comma, ih [] hr, List.reverse_nil, consHead_nil (splitPlain_ne_nil rest)]
      simp [consHead]
    · rw [aux_other hc hq, splitPlain_other hc, ih _ hr, consHead_consHead]
      simp

theorem aux_seg {sg : QSeg} (h : sg.ok = true) (cur rest : List Char) :
    splitCommasAux cur (sg.render ++ rest) = splitCommasAux (sg.render.reverse ++ cur) rest := by
  cases sg with
  | quoted c => exact aux_quoted cur c rest
  | plain c =>
    have hc : c ≠ ',' ∧ c ≠ '\'' := by simpa [QSeg.ok] using h
    exact aux_other hc.1 hc.2

theorem aux_item {it : List QSeg} (hok : ∀ sg ∈ it, sg.ok = true) (cur rest : List Char) :
    splitCommasAux cur (renderItem it ++ rest) =
      splitCommasAux ((renderItem it).reverse ++ cur) rest := by
  induction it generalizing cur with
  | nil => rfl
  | cons sg it ih =>
    rw [show renderItem (sg :: it) = sg.render ++ renderItem it from rfl, List.append_assoc,
      aux_seg (hok sg (List.mem_cons_self ..)), ih fun s hs => hok s (List.mem_cons_of_mem _ hs),
      List.reverse_append, List.append_assoc]

theorem items_aux {items : List (List QSeg)} (hne : items ≠ [])
    (hok : ∀ it ∈ items, ∀ sg ∈ it, sg.ok = true) (cur : List Char) :
    splitCommasAux cur (joinCommas (items.map renderItem)) =
      consHead cur.reverse (items.map renderItem) := by
  induction items generalizing cur with
  | nil => exact absurd rfl hne
  | cons it rest ih =>
    have hit := hok it (by simp)
    cases rest with
    | nil =>
      have := aux_item hit cur []
      simp only [List.append_nil] at this
      simp [joinCommas, this, aux_nil, consHead]
    | cons it2 rest =>
      have hrest : ∀ i ∈ it2 :: rest, ∀ sg ∈ i, sg.ok = true :=
        fun i hi => hok i (List.mem_cons_of_mem _ hi)
      have h2 := ih (by simp) hrest []
      simp only [List.map_cons] at h2 ⊢
      rw [joinCommas, aux_item hit, aux_comma, h2]
      simp [consHead]

end SplitLemmas
end BV
