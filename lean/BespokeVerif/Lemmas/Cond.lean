/-
  C08 (conditional assembly): the condition-stack machine `runDirs`
  over a flattened block tree computes the tree semantics `selB/selL/selE`.
-/
import BespokeVerif.Model.Cond
import BespokeVerif.Lemmas.Basics
namespace BV

theorem active_cons (f : Frame) (st : CondStack) : CondStack.active (f :: st) = f.active := rfl
theorem active_nil : CondStack.active [] = true := rfl

/-! ## single steps of the condition stack, in the shape of the tree semantics: the new frame is
    active only if the enclosing one is (a guarded test that came out true implies its guard) -/

theorem condStep_endif (t : SymTab) (f : Frame) (rest : CondStack) :
    condStep t (f :: rest) .endif = .ok rest := rfl

theorem condStep_else {t : SymTab} {f : Frame} {rest : CondStack} (hk : f.kind ≠ .elsek) :
    condStep t (f :: rest) .elsec =
      pure (⟨rest.active && !f.taken, f.taken || (rest.active && !f.taken), .elsek⟩ :: rest) :=
  (if_neg hk).trans rfl

theorem condStep_elif {t : SymTab} {c : CondExp} {f : Frame} {rest : CondStack}
    (hk : f.kind ≠ .elsek) :
    condStep t (f :: rest) (.elifc c) =
      (if rest.active && !f.taken then condHolds t c else pure false) >>= fun h =>
        pure (⟨rest.active && h, f.taken || h, .elifk⟩ :: rest) := by
  refine (if_neg hk).trans ?_
  unfold pushFrame
  cases rest.active <;> cases f.taken <;> rfl

def openerKind : Opener → FrameKind
  | .ifc _ => .ifk
  | _ => .ifdefk

theorem openerKind_ne (o : Opener) : openerKind o ≠ .elsek := by
  cases o <;> exact fun h => nomatch h

theorem condStep_opener (t : SymTab) (o : Opener) (st : CondStack) :
    condStep t st o.toDir =
      (if st.active then openerHolds t o else pure false) >>= fun c0 =>
        pure (⟨st.active && c0, c0, openerKind o⟩ :: st) := by
  cases o <;> (unfold Opener.toDir condStep pushFrame; cases st.active <;> rfl)

theorem runDirs_cond (d : CondDir) (ds : List Dir) (st : CondStack) (s : Sel) :
    runDirs (.cond d :: ds) st s = condStep s.syms st d >>= fun st' => runDirs ds st' s := by
  rw [runDirs]

theorem runDirs_append (ds₁ ds₂ : List Dir) (st : CondStack) (s : Sel) :
    runDirs (ds₁ ++ ds₂) st s = (runDirs ds₁ st s).bind fun p => runDirs ds₂ p.1 p.2 := by
  induction ds₁ generalizing st s with
  | nil => rfl
  | cons d ds ih =>
    rcases d with ⟨_ | _⟩ | d <;> simp only [List.cons_append, runDirs, ih, bind_eq, bind_assoc]
    split
    · exact (bind_assoc ..).symm
    · rfl

/-! ## the tree semantics as its source reads (the compiled do-blocks duplicate the continuation
    into both arms of each guarded test) -/

theorem selE_cons (on taken : Bool) (s : Sel) (c : CondExp) (b : List Block)
    (es : List (CondExp × List Block)) :
    selE on taken s ((c, b) :: es) =
      (if on && !taken then condHolds s.syms c else pure false) >>= fun h =>
        selL (on && h) s b >>= fun s' => selE on (taken || h) s' es := by
  cases on <;> cases taken <;> rfl

/-- what the part of a chain after its `#elif`s does, as a function of the chain's `taken` flag -/
def elseSel (on : Bool) (els : Option (List Block)) (s : Sel) (taken : Bool) : Except Err Sel :=
  match els with
  | none => pure s
  | some b => selL (on && !taken) s b

def elseDirs (els : Option (List Block)) : List Dir :=
  (match els with | none => [] | some b => .cond .elsec :: flattenL b) ++ [.cond .endif]

theorem selB_chain (on : Bool) (s : Sel) (o : Opener) (body : List Block)
    (elifs : List (CondExp × List Block)) (els : Option (List Block)) :
    selB on s (.chain o body elifs els) =
      (if on then openerHolds s.syms o else pure false) >>= fun c0 =>
        selL (on && c0) s body >>= fun s1 =>
          selE on c0 s1 elifs >>= fun p => elseSel on els p.1 p.2 := by
  cases els <;> cases on <;> rfl

theorem flattenB_chain (o : Opener) (body : List Block) (elifs : List (CondExp × List Block))
    (els : Option (List Block)) :
    flattenB (.chain o body elifs els) =
      .cond o.toDir :: (flattenL body ++ (flattenE elifs ++ elseDirs els)) := by
  cases els <;>
    simp only [flattenB, elseDirs, List.append_assoc, List.cons_append, List.nil_append]

/-- the stream `ds` does what `sel` says and leaves the stack as it found it, whatever follows
    (continuation form, hence `_k` in `runB_k`, `runL_k`) -/
def Run (ds : List Dir) (sel : Bool → Sel → Except Err Sel) : Prop :=
  ∀ (tail : List Dir) (st : CondStack) (s : Sel),
    runDirs (ds ++ tail) st s = sel st.active s >>= fun s' => runDirs tail st s'

theorem Run.alone {ds : List Dir} {sel : Bool → Sel → Except Err Sel} (h : Run ds sel)
    (st : CondStack) (s : Sel) : runDirs ds st s = (sel st.active s).map fun s' => (st, s') := by
  rw [map_eq, ← List.append_nil ds, h [] st s]; rfl

theorem run_nil : Run [] fun _ s => pure s := fun _ _ _ => rfl

theorem run_append {ds₁ ds₂ : List Dir} {sel₁ sel₂ : Bool → Sel → Except Err Sel}
    (h₁ : Run ds₁ sel₁) (h₂ : Run ds₂ sel₂) :
    Run (ds₁ ++ ds₂) fun on s => sel₁ on s >>= sel₂ on := by
  intro tail st s
  simp only [List.append_assoc, h₁ _ st s, h₂ tail st, bind_assoc]

theorem run_item (i : Item) : Run [.item i] fun on s => selB on s (.item i) := by
  intro tail st s
  cases i with
  | line id => simp only [List.cons_append, List.nil_append, runDirs, selB]; rfl
  | define n v =>
    simp only [List.cons_append, List.nil_append, runDirs, selB]
    split
    · simp only [bind_assoc]; rfl
    · rfl

def RunB (b : Block) : Prop := ∀ (st : CondStack) (s : Sel),
  runDirs (flattenB b) st s = (selB st.active s b).map fun s' => (st, s')

/-- the `#elif` part of a chain whose frame `f` is on top of `rest`, followed by any tail that only
    looks at the `taken` flag of the chain's frame (and needs it not to be an `#else` frame) -/
def RunE (es : List (CondExp × List Block)) : Prop :=
  ∀ (f : Frame) (rest : CondStack) (s : Sel) (tail : List Dir)
    (R : Sel → Bool → Except Err (CondStack × Sel)),
    f.kind ≠ .elsek →
    (∀ (f' : Frame) (s' : Sel), f'.kind ≠ .elsek → runDirs tail (f' :: rest) s' = R s' f'.taken) →
    runDirs (flattenE es ++ tail) (f :: rest) s =
      (selE rest.active f.taken s es).bind fun p => R p.1 p.2

theorem runE_cons {c : CondExp} {b : List Block} {es : List (CondExp × List Block)}
    (hb : Run (flattenL b) fun on s => selL on s b) (hes : RunE es) : RunE ((c, b) :: es) := by
  intro f rest s tail R hk hR
  have key := fun h s' =>
    hes ⟨rest.active && h, f.taken || h, .elifk⟩ rest s' tail R (fun h => nomatch h) hR
  simp only [flattenE, List.append_assoc, List.cons_append, List.nil_append, runDirs_cond,
    condStep_elif hk, selE_cons, bind_eq, bind_assoc, pure_bind, hb _ _ s,
    active_cons, key]

theorem run_elseDirs {els : Option (List Block)}
    (hels : ∀ b, els = some b → Run (flattenL b) fun on s => selL on s b)
    (tail : List Dir) (rest : CondStack) (f : Frame) (s : Sel) (hk : f.kind ≠ .elsek) :
    runDirs (elseDirs els ++ tail) (f :: rest) s =
      elseSel rest.active els s f.taken >>= fun s' => runDirs tail rest s' := by
  cases els with
  | none => rfl
  | some b =>
    simp only [elseDirs, elseSel, List.cons_append, List.nil_append, List.append_assoc,
      runDirs_cond, condStep_else hk, pure_bind, hels b rfl _ _ s, active_cons,
      condStep_endif, ok_bind]

theorem run_chain {o : Opener} {body : List Block} {elifs : List (CondExp × List Block)}
    {els : Option (List Block)} (hbody : Run (flattenL body) fun on s => selL on s body)
    (helifs : RunE elifs) (hels : ∀ b, els = some b → Run (flattenL b) fun on s => selL on s b) :
    Run (flattenB (.chain o body elifs els)) fun on s => selB on s (.chain o body elifs els) := by
  intro tail st s
  -- the frame the opener pushed, the `#elif`s, then `#else`/`#endif` as the tail of `RunE`
  have key := fun c0 s1 =>
    helifs ⟨st.active && c0, c0, openerKind o⟩ st s1 (elseDirs els ++ tail)
      (fun s' tk => elseSel st.active els s' tk >>= fun s'' => runDirs tail st s'')
      (openerKind_ne o) (run_elseDirs hels tail st)
  simp only [flattenB_chain, selB_chain, List.cons_append, List.append_assoc, runDirs_cond,
    condStep_opener, bind_eq, bind_assoc, pure_bind, hbody _ _ s, active_cons, key]

mutual
theorem runB_k : ∀ b : Block, Run (flattenB b) fun on s => selB on s b
  | .item i => run_item i
  | .chain _ body elifs none =>
    run_chain (runL_k body) (runE_all elifs) (fun _ h => nomatch h)
  | .chain _ body elifs (some eb) =>
    run_chain (runL_k body) (runE_all elifs)
      (fun _ h => Option.some.inj h ▸ runL_k eb)
theorem runL_k : ∀ bs : List Block, Run (flattenL bs) fun on s => selL on s bs
  | [] => run_nil
  | b :: bs => run_append (runB_k b) (runL_k bs)
theorem runE_all : ∀ es : List (CondExp × List Block), RunE es
  | [] => fun f _ s _ _ hk hR => hR f s hk
  | (_, b) :: es => runE_cons (runL_k b) (runE_all es)
end

theorem runB_all : ∀ b : Block, RunB b := fun b => (runB_k b).alone

def OffE (es : List (CondExp × List Block)) : Prop :=
  ∀ (s : Sel) (taken : Bool), selE false taken s es = .ok (s, taken)

mutual
theorem offB_all : ∀ (b : Block) (s : Sel), selB false s b = .ok s
  | .item (.line _), _ => rfl
  | .item (.define _ _), _ => rfl
  | .chain o body elifs none, s => by
    simp only [selB_chain, Bool.false_eq_true, if_false, pure_bind, Bool.false_and,
      offL_all body, offE_all elifs _ _, ok_bind, elseSel]
    rfl
  | .chain o body elifs (some eb), s => by
    simp only [selB_chain, Bool.false_eq_true, if_false, pure_bind, Bool.false_and,
      offL_all body, offE_all elifs _ _, ok_bind, elseSel, offL_all eb]
theorem offL_all : ∀ (bs : List Block) (s : Sel), selL false s bs = .ok s
  | [], _ => rfl
  | b :: bs, s => by rw [selL, offB_all b s]; exact offL_all bs s
theorem offE_all : ∀ es : List (CondExp × List Block), OffE es
  | [], _, _ => rfl
  | (_, b) :: es, s, tk => by
    simp only [selE_cons, Bool.false_and, Bool.false_eq_true, if_false, pure_bind, offL_all b,
      ok_bind, Bool.or_false, offE_all es _ _]
end

end BV

