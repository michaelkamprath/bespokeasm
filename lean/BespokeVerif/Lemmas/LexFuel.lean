/-
  The lexer never runs out of fuel: every step of `lexStep` consumes at least one character and
  reports only `badExpression`, so `lexLoop` with fuel > length of the text (what `lexExpr` gives it)
  never returns `outOfFuel`.
-/
import BespokeVerif.Model.Expr
import BespokeVerif.Lemmas.Fuel
namespace BV

theorem classifyIdent_onlyBad {p : List Char} : OnlyBad (classifyIdent p) := by
  unfold classifyIdent
  refine .ite (fun _ => ?_) fun _ => .ite (fun _ => .error rfl) fun _ => ?_
  · split
    · exact .ite (fun _ => .ok _) fun _ => .error rfl
    · exact .error rfl
  · split
    · exact .error rfl
    · exact .ite (fun _ => .ok _) fun _ => .error rfl

/-- what one lexer step may return after the first character of `c :: rest`: the text that is left
    is a suffix of `rest`, and no error other than `badExpression` -/
def StepOk (rest : List Char) (o : Option (Except Err Tok × List Char)) : Prop :=
  ∀ r rest', o = some (r, rest') → rest' <:+ rest ∧ OnlyBad r

theorem stepOk_ite {rest : List Char} {c : Prop} [Decidable c] {a b : Option (Except Err Tok × List Char)}
    (ha : c → StepOk rest a) (hb : StepOk rest b) : StepOk rest (if c then a else b) :=
  iteInduction ha fun _ => hb

theorem stepOk_some {rest l : List Char} {r : Except Err Tok} (h : l <:+ rest) (hr : OnlyBad r) :
    StepOk rest (some (r, l)) := by
  intro r rest' he
  cases he
  exact ⟨h, hr⟩

theorem stepOk_ok {rest l : List Char} {t : Tok} (h : l <:+ rest) : StepOk rest (some (.ok t, l)) :=
  stepOk_some h (.ok t)

theorem dropWhile_cons_suffix {p : Char → Bool} {c : Char} (h : p c = true) {rest : List Char} :
    (c :: rest).dropWhile p <:+ rest := by
  rw [List.dropWhile_cons_of_pos h]
  exact List.dropWhile_suffix p

/-- one `stepOk_ite` per alternative of `lexStep`, in the order of the pattern -/
theorem lexStep_ok (c : Char) (rest : List Char) : StepOk rest (lexStep (c :: rest)) := by
  rw [lexStep]
  refine stepOk_ite (fun _ => stepOk_ok (List.dropWhile_suffix _)) ?_
  refine stepOk_ite (fun _ => stepOk_ok (List.dropWhile_suffix _)) ?_
  refine stepOk_ite (fun _ => stepOk_ok ((List.dropWhile_suffix _).trans (List.drop_suffix 1 rest))) ?_
  -- [0-9a-fA-F]+H : `c` is a hex digit, so the run that is dropped (and then the `H`) starts at `c`
  refine stepOk_ite (fun g => stepOk_ok ((List.drop_suffix 1 _).trans (dropWhile_cons_suffix ?_))) ?_
  · simp only [Bool.and_eq_true] at g
    exact g.1.1
  refine stepOk_ite (fun g => stepOk_ok (dropWhile_cons_suffix g)) ?_
  split
  · exact stepOk_ok (List.suffix_refl rest)
  refine stepOk_ite (fun _ => stepOk_ok (List.drop_suffix 1 rest)) ?_
  refine stepOk_ite (fun _ => stepOk_ok (List.drop_suffix 1 rest)) ?_
  refine stepOk_ite (fun _ => stepOk_ok (List.suffix_refl rest)) ?_
  refine stepOk_ite (fun _ => stepOk_ok (List.drop_suffix 3 rest)) ?_
  refine stepOk_ite (fun _ => stepOk_ok (List.drop_suffix 5 rest)) ?_
  refine stepOk_ite (fun _ => stepOk_some (List.dropWhile_suffix _) classifyIdent_onlyBad) ?_
  refine stepOk_ite (fun g => stepOk_some (dropWhile_cons_suffix g) classifyIdent_onlyBad) ?_
  refine stepOk_ite (fun _ => stepOk_ok (List.drop_suffix 2 rest)) ?_
  exact stepOk_ite (fun _ => stepOk_some (List.suffix_refl rest) (.error rfl))
    (fun _ _ h => by cases h)

theorem lexLoop_onlyBad {f : Nat} {cs : List Char} (h : cs.length < f) : OnlyBad (lexLoop f cs) := by
  induction f generalizing cs with
  | zero => cases h
  | succ f ih =>
    cases cs with
    | nil => exact .ok []
    | cons c rest =>
      have hrest : rest.length < f := Nat.lt_of_succ_lt_succ h
      have hs := lexStep_ok c rest
      rw [lexLoop]
      split
      · rename_i t rest' hst
        have hlen : rest'.length < f := Nat.lt_of_le_of_lt (hs _ _ hst).1.length_le hrest
        exact (ih hlen).bind fun _ _ => .ok _
      · rename_i e _ hst
        exact .error ((hs _ _ hst).2 e rfl)
      · exact .ite (fun _ => ih hrest) fun _ => .error rfl

theorem lexExpr_onlyBad (s : List Char) : OnlyBad (lexExpr s) :=
  lexLoop_onlyBad (Nat.lt_succ_self _)

end BV
