/-
  Reserved size = emitted size for a whole ISA statement (C02 / C10): `assembleStmt` produces as many bytes as
  `stmtSize` reserved from selection alone, whatever the label environment and the address are.  Sizes depend
  only on the (size, align) of every field; resolving values and evaluating expressions never changes those.
-/
import BespokeVerif.Model.Select
import BespokeVerif.Model.Macro
import BespokeVerif.Lemmas.Bits
import BespokeVerif.Lemmas.Macro
import BespokeVerif.Lemmas.Constraint
namespace BV

def ParsedOp.shapeParts (p : ParsedOp) : OpParts :=
  { code := p.code.map fun (f, pos) => (f.shape, pos), arg := p.arg.map FieldSpec.shape }

theorem FieldSpec.toSrc_shape {env : String → Option Int} {f : FieldSpec} {s : SrcField}
    (h : f.toSrc env = .ok s) : s.shape = f.shape := by
  unfold FieldSpec.toSrc at h
  obtain ⟨v, hv, h⟩ := bind_eq_ok h
  cases hpre : f.pre with
  | none =>
    simp only [hpre] at h
    cases h
    simp [SrcField.shape, FieldSpec.shape, hpre]
  | some pp =>
    rcases pp with ⟨pv, pn⟩
    simp only [hpre] at h
    obtain ⟨lv, hl, h⟩ := bind_eq_ok h
    split at h
    · cases h
    · cases h
      simp [SrcField.shape, FieldSpec.shape, hpre]

theorem ParsedOp.toSrcOp_shape {env : String → Option Int} {p : ParsedOp} {o : SrcOp}
    (h : p.toSrcOp env = .ok o) : o.shape = p.shapeParts := by
  rcases p with ⟨id, _ | ⟨c, pos⟩, _ | a⟩ <;> simp only [ParsedOp.toSrcOp, pure_bind] at h
  · cases h; rfl
  · obtain ⟨s, hs, h⟩ := bind_eq_ok h
    cases h
    simp [SrcOp.shape, ParsedOp.shapeParts, FieldSpec.toSrc_shape hs]
  · obtain ⟨s, hs, h⟩ := bind_eq_ok h
    cases h
    simp [SrcOp.shape, ParsedOp.shapeParts, FieldSpec.toSrc_shape hs]
  · obtain ⟨s, hs, h⟩ := bind_eq_ok h
    obtain ⟨t, ht, h⟩ := bind_eq_ok h
    cases h
    simp [SrcOp.shape, ParsedOp.shapeParts, FieldSpec.toSrc_shape hs, FieldSpec.toSrc_shape ht]

theorem stmtSize_eq (v : VariantCfg) (m : Matched) :
    stmtSize v m = byteSizeOf (fieldOrder (m.ops.map ParsedOp.shapeParts) v.opcode
      (if v.count.isNone then none else v.suffix) m.revArgs m.revCodes) := rfl

theorem assembleStmt_length {regs : List String} {gz : Int × Int} {env : String → Option Int} {addr : Int}
    {variants : List VariantCfg} {fs : List Form} {i : Nat} {bs : List Nat}
    (h : assembleStmt regs gz env addr variants fs = .ok (i, bs)) :
    ∃ v m, selectVariant regs gz variants fs 0 = .ok (i, v, m) ∧ bs.length = stmtSize v m := by
  unfold assembleStmt at h
  cases hs : selectVariant regs gz variants fs 0 with
  | decline => simp [hs] at h
  | hard => simp [hs] at h
  | ok r =>
    rcases r with ⟨j, v, m⟩
    simp only [hs] at h
    obtain ⟨ops, hops, h⟩ := bind_eq_ok h
    obtain ⟨r, henc, h⟩ := bind_eq_ok h
    cases r with
    | none => cases h
    | some bs' =>
      cases h
      refine ⟨v, m, rfl, ?_⟩
      rw [encodeInstr_length henc, stmtSize_eq, instrSize, mapM_ok_map (fun h => ParsedOp.toSrcOp_shape h) hops]

theorem assembleSteps_length {regs : List String} {gz : Int × Int} {env : String → Option Int} {tbl : InstrTable}
    {steps : List (String × List Form)} {addr : Int} {bs : List Nat}
    (h : assembleSteps regs gz env tbl addr steps = .ok bs) :
    ∃ sizes, stepSizes regs gz tbl steps = some sizes ∧ bs.length = sizes.sum := by
  induction steps generalizing addr bs with
  | nil =>
    cases h
    exact ⟨[], rfl, rfl⟩
  | cons st rest ih =>
    rw [assembleSteps_cons] at h
    split at h
    · cases h
    · next x variants ht =>
      split at h
      · cases h
      · next i b1 h1 =>
        rw [map_eq] at h
        obtain ⟨tail, hr, h⟩ := bind_eq_ok h
        cases h
        obtain ⟨v, m, hsel, hlen⟩ := assembleStmt_length h1
        obtain ⟨sizes, hsz, hsum⟩ := ih hr
        refine ⟨stmtSize v m :: sizes, ?_, ?_⟩
        · simp only [stepSizes, ht, hsel, hsz, Option.map_some]
        · simp only [List.length_append, List.sum_cons, hlen, hsum]

end BV
