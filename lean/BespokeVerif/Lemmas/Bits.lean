/-
  C01 (bit packing): the cursor-based packer `PB` refines the bit-string specification.  `PB.abs` reads a
  packer state as the bits written so far; every operation appends to it (`pushBit_abs` … `appendAll_abs`),
  and chopping the padded bit string into bytes gives back the packer's bytes (`bytes_eq_pack8`).
-/
import BespokeVerif.Model.Bits
import BespokeVerif.Lemmas.Basics
namespace BV

def byteBits (x : Nat) : List Bool := [7,6,5,4,3,2,1,0].map (fun i => x.testBit i)

/-- the top `k` bits (bit 7 downwards) of a byte, MSB first -/
def topBits (x : Nat) : Nat → List Bool
  | 0 => []
  | k+1 => topBits x k ++ [x.testBit (7 - k)]

def PB.abs (s : PB) : List Bool :=
  s.done.flatMap byteBits ++ topBits s.cur (7 - s.bit).toNat

def PB.Inv (s : PB) : Prop :=
  -1 ≤ s.bit ∧ s.bit ≤ 7 ∧ (∀ j : Nat, (j : Int) ≤ s.bit → s.cur.testBit j = false)
    ∧ s.cur < 256 ∧ (∀ x ∈ s.done, x < 256)

theorem PB.init_inv : PB.init.Inv :=
  ⟨by decide, by decide, fun j _ => Nat.zero_testBit j, by decide, fun _ hx => absurd hx List.not_mem_nil⟩

theorem PB.init_abs : PB.init.abs = [] := rfl

theorem byteBits_length (x : Nat) : (byteBits x).length = 8 := rfl

theorem topBits_eq (x k : Nat) : topBits x k = (List.range k).map fun i => x.testBit (7 - i) := by
  induction k with
  | zero => rfl
  | succ k ih => rw [topBits, ih, List.range_succ, List.map_append]; rfl

theorem topBits_length (x k : Nat) : (topBits x k).length = k := by
  rw [topBits_eq, List.length_map, List.length_range]

theorem flatMap_byteBits_length (l : List Nat) : (l.flatMap byteBits).length = 8 * l.length :=
  length_flatMap_const 8 fun x _ => byteBits_length x

theorem PB.abs_length (s : PB) : s.abs.length = 8 * s.done.length + (7 - s.bit).toNat := by
  unfold PB.abs
  rw [List.length_append, flatMap_byteBits_length, topBits_length]

theorem topBits_eight (x : Nat) : topBits x 8 = byteBits x := by
  rw [topBits_eq]; rfl

theorem topBits_congr {x y : Nat} {k : Nat}
    (h : ∀ j, 8 ≤ j + k → j ≤ 7 → x.testBit j = y.testBit j) :
    topBits x k = topBits y k := by
  rw [topBits_eq, topBits_eq]
  exact List.map_congr_left fun i hi => h (7 - i) (by have := List.mem_range.mp hi; omega) (Nat.sub_le 7 i)

theorem setBit_testBit (x k j : Nat) (b : Bool) :
    (x ||| (b.toNat <<< k)).testBit j = (x.testBit j || (b && decide (j = k))) := by
  rw [Nat.testBit_or]
  cases b with
  | false => simp
  | true =>
    rw [Bool.toNat_true, Nat.one_shiftLeft, Nat.testBit_two_pow, Bool.true_and, decide_eq_decide.mpr eq_comm]

theorem setBit_lt {x k : Nat} {b : Bool} (hx : x < 256) (hk : k ≤ 7) :
    x ||| (b.toNat <<< k) < 256 := by
  apply Nat.or_lt_two_pow (n := 8) hx
  cases b with
  | false => rw [Bool.toNat_false, Nat.zero_shiftLeft]; decide
  | true =>
    rw [Bool.toNat_true, Nat.one_shiftLeft]
    exact Nat.pow_lt_pow_right (by decide) (Nat.lt_succ_of_le hk)

theorem push_inside {c : Nat} {k : Nat} (hk : k ≤ 7) (b : Bool)
    (hz : ∀ j : Nat, j ≤ k → c.testBit j = false) :
    topBits (c ||| (b.toNat <<< k)) (7 - k + 1) = topBits c (7 - k) ++ [b] := by
  simp only [topBits]
  congr 1
  · refine topBits_congr fun j h1 _ => ?_
    have : j ≠ k := by omega
    rw [setBit_testBit, decide_eq_false this, Bool.and_false, Bool.or_false]
  · rw [Nat.sub_sub_self hk, setBit_testBit, hz k (Nat.le_refl _), decide_eq_true rfl, Bool.and_true, Bool.false_or]

theorem PB.Inv.bytes_lt {s : PB} (h : s.Inv) : ∀ x ∈ s.bytes, x < 256 := by
  intro x hx
  rcases List.mem_append.mp hx with hx | hx
  · exact h.2.2.2.2 x hx
  · rw [List.mem_singleton.mp hx]; exact h.2.2.2.1

/-- the current byte is retired and a fresh one begun: `pushBit` does so first when the byte is full,
    `alignIf` on request -/
def PB.flush (s : PB) : PB := { done := s.bytes, cur := 0, bit := 7 }

theorem PB.flush_abs (s : PB) : s.flush.abs = s.bytes.flatMap byteBits :=
  List.append_nil _

theorem PB.flush_inv (s : PB) (h : s.Inv) : s.flush.Inv :=
  ⟨show (-1 : Int) ≤ 7 by decide, Int.le_refl 7, fun j _ => Nat.zero_testBit j, show 0 < 256 by decide, h.bytes_lt⟩

/-- the state `pushBit` writes into -/
def PB.norm (s : PB) : PB := if s.bit < 0 then s.flush else s

theorem PB.norm_abs (s : PB) (h : s.Inv) :
    s.norm.abs = s.abs ∧ s.norm.Inv ∧ 0 ≤ s.norm.bit := by
  unfold PB.norm
  split
  · next hneg =>
    have hb : s.bit = -1 := Int.le_antisymm (Int.le_of_lt_add_one hneg) h.1
    refine ⟨?_, s.flush_inv h, show (0 : Int) ≤ 7 by decide⟩
    rw [PB.flush_abs, PB.abs, hb, PB.bytes, List.flatMap_append, List.flatMap_singleton]
    exact congrArg _ (topBits_eight s.cur).symm
  · next hpos => exact ⟨rfl, h, Int.not_lt.mp hpos⟩

theorem PB.write_abs (s : PB) (b : Bool) (k : Nat) (hk : s.bit = k) (h : s.Inv) :
    PB.abs { s with cur := s.cur ||| (b.toNat <<< k), bit := s.bit - 1 } = s.abs ++ [b]
      ∧ PB.Inv { s with cur := s.cur ||| (b.toNat <<< k), bit := s.bit - 1 } := by
  -- with the cursor a literal `↑k` the bounds are casts of facts about `k` (`omega` on `s.bit` is slow to check)
  obtain ⟨done, cur, bit⟩ := s
  subst hk
  obtain ⟨-, h2, h3, h4, h5⟩ := h
  have hk7 : k ≤ 7 := Int.ofNat_le.mp h2
  have hz : ∀ j : Nat, j ≤ k → cur.testBit j = false := fun j hj => h3 j (Int.ofNat_le.mpr hj)
  refine ⟨?_, ?_, ?_, ?_, setBit_lt h4 hk7, h5⟩
  · have e1 : 7 - ((k : Int) - 1) = ((7 - k + 1 : Nat) : Int) := by omega
    have e2 : (7 - (k : Int)).toNat = 7 - k := Int.toNat_sub 7 k
    simp only [PB.abs, e1, Int.toNat_natCast, e2, push_inside hk7 b hz, List.append_assoc]
  · exact Int.sub_le_sub_right (Int.natCast_nonneg k) 1
  · exact Int.le_trans (Int.sub_le_self _ (by decide)) h2
  · intro j hj
    have hjk : j < k := Int.ofNat_lt.mp (Int.lt_of_le_sub_one hj)
    rw [setBit_testBit, hz j (Nat.le_of_lt hjk), decide_eq_false (Nat.ne_of_lt hjk), Bool.and_false, Bool.or_false]

/-- The third conjunct, `bit < 7`, says that the current byte has been written into. `PB.bytes` is
    `done ++ [cur]` whether or not it has: with the cursor still at 7 it ends in a byte the bit string does
    not have (and `getBytes` answers `none`). This is where `1 ≤ f.size` and `fs ≠ []` below come from. -/
theorem pushBit_abs (s : PB) (b : Bool) (h : s.Inv) :
    (s.pushBit b).abs = s.abs ++ [b] ∧ (s.pushBit b).Inv ∧ (s.pushBit b).bit < 7 := by
  obtain ⟨n1, n2, n3⟩ := s.norm_abs h
  obtain ⟨w1, w2⟩ := s.norm.write_abs b s.norm.bit.toNat (Int.toNat_of_nonneg n3).symm n2
  have e : s.pushBit b =
      { s.norm with cur := s.norm.cur ||| (b.toNat <<< s.norm.bit.toNat), bit := s.norm.bit - 1 } := rfl
  rw [e]
  exact ⟨w1.trans (by rw [n1]), w2, Int.sub_one_lt_of_le n2.2.1⟩

def lowBits (x cnt : Nat) : List Bool := (List.range cnt).reverse.map x.testBit

theorem lowBits_succ (x cnt : Nat) : lowBits x (cnt + 1) = x.testBit cnt :: lowBits x cnt := by
  simp [lowBits, List.range_succ]

theorem pushByteBits_abs (x cnt : Nat) {s : PB} (h : s.Inv) :
    (s.pushByteBits x cnt).abs = s.abs ++ lowBits x cnt ∧ (s.pushByteBits x cnt).Inv
      ∧ (0 < cnt ∨ s.bit < 7 → (s.pushByteBits x cnt).bit < 7) := by
  induction cnt generalizing s with
  | zero => simp [PB.pushByteBits, lowBits, h]
  | succ cnt ih =>
    obtain ⟨a1, a2, a3⟩ := pushBit_abs s (x.testBit cnt) h
    obtain ⟨b1, b2, b3⟩ := ih a2
    simp only [PB.pushByteBits]
    refine ⟨?_, b2, fun _ => b3 (Or.inr a3)⟩
    rw [b1, a1, lowBits_succ]; simp

theorem topBits_zero_ext (x k m : Nat) (hkm : k + m ≤ 8)
    (hz : ∀ j, j + k < 8 → x.testBit j = false) :
    topBits x (k + m) = topBits x k ++ List.replicate m false := by
  rw [topBits_eq, topBits_eq, List.range_add, List.map_append, List.map_map]
  congr 1
  refine List.eq_replicate_iff.mpr ⟨by simp, fun b hb => ?_⟩
  obtain ⟨i, hi, rfl⟩ := List.mem_map.mp hb
  exact hz (7 - (k + i)) (by have := List.mem_range.mp hi; omega)

/-- the padding behind `k` bits of a byte is the `8 - k` bits left in it -/
theorem pad_length {n k : Nat} (h1 : 1 ≤ k) (h8 : k ≤ 8) : (8 - (8 * n + k) % 8) % 8 = 8 - k := by
  rw [Nat.mul_add_mod]
  rcases Nat.lt_or_eq_of_le h8 with hlt | rfl
  · rw [Nat.mod_eq_of_lt hlt, Nat.mod_eq_of_lt (Nat.sub_lt (by decide) h1)]
  · rfl

theorem padTo8_abs {s : PB} (h : s.Inv) (hb : s.bit < 7) :
    padTo8 s.abs = s.bytes.flatMap byteBits := by
  obtain ⟨h1, _, h3, _, _⟩ := h
  -- `k` bits of the current byte are written; as an equation in `Int` it keeps `omega` off `toNat`
  obtain ⟨k, hk⟩ : ∃ k : Nat, 7 - s.bit = k := Int.eq_ofNat_of_zero_le (Int.le_of_lt (Int.sub_pos.mpr hb))
  have hk1 : 1 ≤ k := by omega
  have hk8 : k ≤ 8 := by omega
  have hz := topBits_zero_ext s.cur k (8 - k) (Nat.le_of_eq (Nat.add_sub_cancel' hk8)) fun j hj => h3 j (by omega)
  rw [Nat.add_sub_cancel' hk8, topBits_eight] at hz
  rw [padTo8, PB.abs_length, hk, Int.toNat_natCast, pad_length hk1 hk8]
  simp only [PB.abs, PB.bytes, hk, Int.toNat_natCast, List.flatMap_append, List.flatMap_singleton,
    List.append_assoc, hz]

theorem alignIf_abs {s : PB} (a : Bool) (h : s.Inv) :
    (s.alignIf a).abs = (if a then padTo8 s.abs else s.abs) ∧ (s.alignIf a).Inv := by
  have e : s.alignIf a = if a && decide (s.bit < 7) then s.flush else s := rfl
  rw [e]
  cases a with
  | false => exact ⟨rfl, h⟩
  | true =>
    by_cases hb : s.bit < 7
    · simp only [Bool.true_and, hb, decide_true, if_true]
      exact ⟨s.flush_abs.trans (padTo8_abs h hb).symm, s.flush_inv h⟩
    · simp only [Bool.true_and, hb, decide_false, if_true]
      refine ⟨?_, h⟩
      have : s.bit = 7 := Int.le_antisymm h.2.1 (Int.not_lt.mp hb)
      simp [padTo8, PB.abs_length, this]

/-- the bits emitted by `PB.pushBytes` -/
def pbBits (size firstIdx : Nat) : List Nat → Nat → List Bool
  | [], _ => []
  | x :: xs, idx =>
    lowBits x (if idx = firstIdx then (size + 7) % 8 + 1 else 8) ++ pbBits size firstIdx xs (idx + 1)

theorem pushBytes_abs (size firstIdx : Nat) (xs : List Nat) (idx : Nat) {s : PB} (h : s.Inv) :
    (s.pushBytes size firstIdx xs idx).abs = s.abs ++ pbBits size firstIdx xs idx
      ∧ (s.pushBytes size firstIdx xs idx).Inv
      ∧ (xs ≠ [] ∨ s.bit < 7 → (s.pushBytes size firstIdx xs idx).bit < 7) := by
  induction xs generalizing s idx with
  | nil => simp [PB.pushBytes, pbBits, h]
  | cons x xs ih =>
    simp only [PB.pushBytes, pbBits]
    have hc : 0 < (if idx = firstIdx then (size + 7) % 8 + 1 else 8) := by split <;> exact Nat.succ_pos _
    generalize (if idx = firstIdx then (size + 7) % 8 + 1 else 8) = cnt at hc ⊢
    obtain ⟨a1, a2, a3⟩ := pushByteBits_abs x cnt h
    obtain ⟨b1, b2, b3⟩ := ih (idx + 1) a2
    exact ⟨by rw [b1, a1, List.append_assoc], b2, fun _ => b3 (Or.inr (a3 (Or.inl hc)))⟩

def segBits (v : Int) (k c : Nat) : List Bool := (List.range c).reverse.map fun b => bitAt v (8 * k + b)

theorem lowBits_byteAt {v : Int} {k c : Nat} (hc : c ≤ 8) : lowBits (byteAt v k) c = segBits v k c := by
  unfold lowBits segBits
  apply List.map_congr_left
  intro b hb
  have : b < c := by simpa using hb
  exact byteAt_testBit (Nat.lt_of_lt_of_le this hc)

theorem pbBits_full {size firstIdx : Nat} {xs : List Nat} (idx : Nat)
    (h : ∀ i, idx ≤ i → i < idx + xs.length → i ≠ firstIdx) :
    pbBits size firstIdx xs idx = xs.flatMap (fun x => lowBits x 8) := by
  induction xs generalizing idx with
  | nil => rfl
  | cons x xs ih =>
    have h0 : idx ≠ firstIdx := h idx (Nat.le_refl _) (by simp)
    simp only [pbBits, h0, if_false, List.flatMap_cons]
    rw [ih (idx + 1) (fun i h1 h2 => h i (by omega) (by simp; omega))]

theorem pbBits_append (size firstIdx : Nat) (xs ys : List Nat) (idx : Nat) :
    pbBits size firstIdx (xs ++ ys) idx
      = pbBits size firstIdx xs idx ++ pbBits size firstIdx ys (idx + xs.length) := by
  induction xs generalizing idx with
  | nil => simp [pbBits]
  | cons x xs ih =>
    simp only [List.cons_append, pbBits, ih, List.length_cons, List.append_assoc]
    congr 3; omega

theorem range_rev_split (v : Int) (l c : Nat) :
    (List.range (8 * l + c)).reverse.map (bitAt v)
      = segBits v l c ++ (List.range (8 * l)).reverse.map (bitAt v) := by
  rw [List.range_add, List.reverse_append, List.map_append]
  congr 1
  simp [segBits, List.map_reverse]

theorem bigBits (v : Int) (l : Nat) :
    (List.range (8 * l)).reverse.map (bitAt v)
      = ((List.range l).reverse.map (byteAt v)).flatMap (fun x => lowBits x 8) := by
  induction l with
  | zero => rfl
  | succ l ih =>
    rw [Nat.mul_succ, range_rev_split, ih, List.range_succ, List.reverse_append]
    simp [lowBits_byteAt]

/-- a field of `n ≥ 1` bits is `l` whole bytes and a most significant byte of `1 ≤ c ≤ 8` bits -/
theorem size_split {n : Nat} (hn : 1 ≤ n) :
    ∃ l c, ceil8 n = l + 1 ∧ (n + 7) % 8 + 1 = c ∧ c ≤ 8 ∧ n = 8 * l + c := by
  obtain ⟨m, rfl⟩ : ∃ m, n = m + 1 := ⟨n - 1, (Nat.sub_add_cancel hn).symm⟩
  have h8 : 0 < 8 := by decide
  exact ⟨m / 8, m % 8 + 1, Nat.add_div_right m h8, congrArg (· + 1) (Nat.add_mod_right m 8),
    Nat.mod_lt m h8, congrArg (· + 1) (Nat.div_add_mod m 8).symm⟩

theorem pbBits_valueBytes (v : Int) (n : Nat) (little : Bool) :
    pbBits n (if little then ceil8 n - 1 else 0) (valueBytes v (ceil8 n) little) 0
      = fieldBits v n little := by
  by_cases hn : n = 0
  · subst hn; cases little <;> simp [ceil8, valueBytes, pbBits, fieldBits]
  obtain ⟨l, c, hl, hc, hc8, hs⟩ := size_split (Nat.pos_of_ne_zero hn)
  cases little with
  | false =>
    -- byte `l` first, with its `c` bits, then bytes `l-1 … 0` in full: the bits `n-1 … 0` of `v`
    simp only [valueBytes, fieldBits, hl, Bool.false_eq_true, if_false]
    rw [List.range_succ, List.reverse_append]
    simp only [List.reverse_cons, List.reverse_nil, List.nil_append, List.singleton_append,
      List.map_cons, pbBits, if_true, hc]
    rw [pbBits_full _ (fun i h1 _ => Nat.ne_of_gt h1), lowBits_byteAt hc8, ← bigBits]
    conv => rhs; rw [hs]
    rw [range_rev_split]
  | true =>
    -- bytes `0 … l-1` in full, then byte `l` with its `c` bits
    simp only [valueBytes, fieldBits, hl, if_true, Nat.add_sub_cancel]
    rw [List.range_succ, List.map_append, pbBits_append,
      pbBits_full _ (fun i _ h2 => Nat.ne_of_lt (by simpa using h2))]
    have e : n - 8 * l = c := by rw [hs, Nat.add_sub_cancel_left]
    simp only [List.map_cons, List.map_nil, pbBits, List.length_map, List.length_range,
      Nat.zero_add, if_true, hc, List.append_nil, e]
    rw [lowBits_byteAt hc8]
    congr 1
    rw [List.flatMap_map]
    congr 1
    funext j
    exact lowBits_byteAt (Nat.le_refl _)

theorem valueBytes_ne_nil {v : Int} {n : Nat} {little : Bool} (hn : 1 ≤ n) :
    valueBytes v (ceil8 n) little ≠ [] := by
  obtain ⟨l, _, hl, _⟩ := size_split hn
  intro h
  have := congrArg List.length h
  cases little <;> simp [valueBytes, hl] at this

theorem appendBits_eq (s : PB) (f : Field) :
    s.appendBits f = if Fits f.value f.size then
        .ok ((s.alignIf f.align).pushBytes f.size (if f.little then ceil8 f.size - 1 else 0)
          (valueBytes f.value (ceil8 f.size) f.little) 0)
      else .error .fieldOverflow := by
  unfold PB.appendBits; split <;> simp [*]

theorem appendBits_abs {s : PB} {f : Field} (h : s.Inv) (hf : Fits f.value f.size) :
    ∃ s', s.appendBits f = .ok s'
      ∧ s'.abs = (if f.align then padTo8 s.abs else s.abs) ++ fieldBits f.value f.size f.little
      ∧ s'.Inv ∧ (1 ≤ f.size → s'.bit < 7) := by
  obtain ⟨a1, a2⟩ := alignIf_abs f.align h
  obtain ⟨b1, b2, b3⟩ := pushBytes_abs f.size (if f.little then ceil8 f.size - 1 else 0)
    (valueBytes f.value (ceil8 f.size) f.little) 0 a2
  refine ⟨_, by rw [appendBits_eq, if_pos hf], ?_, b2, ?_⟩
  · rw [b1, a1, pbBits_valueBytes]
  · intro hn
    exact b3 (Or.inl (valueBytes_ne_nil hn))

theorem appendAll_abs {fs : List Field} {s : PB} (h : s.Inv)
    (hf : ∀ f ∈ fs, 1 ≤ f.size ∧ Fits f.value f.size) :
    ∃ s', s.appendAll fs = .ok s' ∧ s'.abs = layout fs s.abs ∧ s'.Inv
      ∧ (fs ≠ [] ∨ s.bit < 7 → s'.bit < 7) := by
  induction fs generalizing s with
  | nil => exact ⟨s, rfl, rfl, h, by simp⟩
  | cons f fs ih =>
    obtain ⟨hf1, hf2⟩ := hf f (by simp)
    obtain ⟨s1, a1, a2, a3, a4⟩ := appendBits_abs h hf2
    obtain ⟨s2, b1, b2, b3, b4⟩ := ih a3 (fun g hg => hf g (by simp [hg]))
    refine ⟨s2, ?_, ?_, b3, fun _ => b4 (Or.inr (a4 hf1))⟩
    · simp only [PB.appendAll, a1]; exact b1
    · rw [b2, a2]; rfl

theorem bitsToNat_lowBits (x n : Nat) : bitsToNat (lowBits x n) = x % 2 ^ n := by
  induction n with
  | zero => simp [lowBits, bitsToNat, Nat.mod_one]
  | succ n ih =>
    have hl : (lowBits x n).length = n := by simp [lowBits]
    rw [lowBits_succ, bitsToNat, hl, ih, Nat.toNat_testBit, Nat.mod_pow_succ, Nat.mul_comm, Nat.add_comm]

theorem bitsToNat_byteBits {x : Nat} (hx : x < 256) : bitsToNat (byteBits x) = x :=
  (bitsToNat_lowBits x 8).trans (Nat.mod_eq_of_lt hx)

theorem pack8_flatMap_byteBits {l : List Nat} (fuel : Nat) (hfuel : l.length ≤ fuel)
    (hl : ∀ x ∈ l, x < 256) : pack8 fuel (l.flatMap byteBits) = l := by
  induction l generalizing fuel with
  | nil => cases fuel <;> simp [pack8]
  | cons x xs ih =>
    cases fuel with
    | zero => simp at hfuel
    | succ fuel =>
      have hlen : (byteBits x).length = 8 := byteBits_length x
      rw [List.flatMap_cons, pack8]
      · rw [List.take_left' hlen, List.drop_left' hlen, bitsToNat_byteBits (hl x (by simp)),
          ih fuel (by simpa using hfuel) (fun y hy => hl y (by simp [hy]))]
      · exact List.append_ne_nil_of_left_ne_nil (List.ne_nil_of_length_eq_add_one hlen) _

theorem pack8_length {fuel : Nat} {bits : List Bool} (hfuel : bits.length ≤ fuel) :
    (pack8 fuel bits).length = ceil8 bits.length := by
  induction fuel generalizing bits with
  | zero =>
    have : bits = [] := List.length_eq_zero_iff.mp (Nat.le_zero.mp hfuel)
    subst this; simp [pack8, ceil8]
  | succ fuel ih =>
    cases bits with
    | nil => simp [pack8, ceil8]
    | cons b bs =>
      rw [pack8, List.length_cons, ih (by simp at hfuel ⊢; omega)]
      · simp only [ceil8, List.length_drop, List.length_cons]; omega
      · simp

theorem fieldBits_length' (v : Int) (n : Nat) (little : Bool) :
    (fieldBits v n little).length = n := by
  cases little with
  | false => simp [fieldBits]
  | true =>
    simp only [fieldBits, if_true, List.length_append, List.length_map, List.length_reverse,
      List.length_range]
    rw [length_flatMap_const 8 (fun j _ => by simp), List.length_range]
    unfold ceil8; omega

theorem padTo8_length (bits : List Bool) :
    (padTo8 bits).length = bits.length + (8 - bits.length % 8) % 8 := by
  simp [padTo8]

theorem layout_length (fs : List Field) (acc : List Bool) :
    (layout fs acc).length = totalBits fs acc.length := by
  induction fs generalizing acc with
  | nil => rfl
  | cons f fs ih =>
    simp only [layout, totalBits, ih, List.length_append, fieldBits_length']
    congr 2
    cases f.align with
    | false => simp
    | true =>
      simp only [if_true, Bool.true_and, padTo8_length, decide_eq_true_eq]
      -- the outer `% 8` of the padding only matters on a byte boundary
      split
      · next h => rw [Nat.mod_eq_of_lt (Nat.sub_lt (by decide) (Nat.pos_of_ne_zero h))]
      · next h => rw [Decidable.not_not.mp h]; rfl

theorem layout_append (fs gs : List Field) (acc : List Bool) :
    layout (fs ++ gs) acc = layout gs (layout fs acc) := by
  induction fs generalizing acc with
  | nil => rfl
  | cons f fs ih => simp only [List.cons_append, layout, ih]

theorem ceil8_padTo8 (bits : List Bool) : ceil8 (padTo8 bits).length = ceil8 bits.length := by
  rw [padTo8_length]; unfold ceil8; omega

theorem bytes_eq_pack8 {s : PB} (h : s.Inv) (hb : s.bit < 7) :
    pack8 (padTo8 s.abs).length (padTo8 s.abs) = s.bytes := by
  rw [padTo8_abs h hb]
  apply pack8_flatMap_byteBits _ _ h.bytes_lt
  rw [flatMap_byteBits_length]; exact Nat.le_mul_of_pos_left _ (by decide)

theorem byteSizeOf_eq_ceil' (fs : List Field) : byteSizeOf fs = ceil8 (layout fs []).length := by
  rw [layout_length]; rfl

theorem specBytes_length (fs : List Field) : (specBytes fs).length = byteSizeOf fs := by
  unfold specBytes
  simp only
  rw [pack8_length (Nat.le_refl _), ceil8_padTo8, byteSizeOf_eq_ceil']

theorem getBytes_eq_spec' {fs : List Field} (hne : fs ≠ [])
    (h : ∀ f ∈ fs, 1 ≤ f.size ∧ Fits f.value f.size) :
    getBytes fs = .ok (some (specBytes fs)) := by
  obtain ⟨s, a1, a2, a3, a4⟩ := appendAll_abs PB.init_inv h
  have hb := a4 (Or.inl hne)
  rw [PB.init_abs] at a2
  have hs : specBytes fs = s.bytes := by
    unfold specBytes; simp only; rw [← a2]; exact bytes_eq_pack8 a3 hb
  have hl : s.bytes.length = byteSizeOf fs := by rw [← hs, specBytes_length]
  unfold getBytes
  rw [a1]
  simp [hl, hs, bind, Except.bind]

theorem appendAll_eq_error_iff (fs : List Field) (s : PB) (e : Err) :
    s.appendAll fs = .error e ↔ e = .fieldOverflow ∧ ∃ f ∈ fs, ¬ Fits f.value f.size := by
  induction fs generalizing s with
  | nil => simp [PB.appendAll]
  | cons f fs ih =>
    rw [PB.appendAll, appendBits_eq]
    by_cases hf : Fits f.value f.size
    · simp [hf, bind, Except.bind, ih]
    · simp [hf, bind, Except.bind, eq_comm]

theorem getBytes_eq_error_iff {fs : List Field} {e : Err} :
    getBytes fs = .error e ↔ e = .fieldOverflow ∧ ∃ f ∈ fs, ¬ Fits f.value f.size := by
  rw [← appendAll_eq_error_iff fs PB.init]
  unfold getBytes
  cases h : PB.init.appendAll fs with
  | error e' => simp [bind, Except.bind]
  | ok s =>
    simp only [bind, Except.bind]
    split <;> simp

theorem getBytes_length {fs : List Field} {bs : List Nat} (h : getBytes fs = .ok (some bs)) :
    bs.length = byteSizeOf fs := by
  obtain ⟨s, _, h⟩ := bind_eq_ok h
  dsimp only at h
  split at h
  · cases h
  · next hl => cases h; exact Decidable.not_not.mp hl

/-- the `insert(0, …)` loop of the implementation builds the reversed prefix group -/
theorem prefixCodes_eq (ops : List OpParts) (acc : List Field) :
    ops.foldl (fun acc o => match o.code with
      | some (f, .prefix) => f :: acc | _ => acc) acc = prefixGroup ops ++ acc := by
  induction ops generalizing acc with
  | nil => rfl
  | cons o os ih =>
    rw [List.foldl_cons, ih, prefixGroup, prefixGroup, List.filterMap_cons]
    split <;> simp [*]

theorem fieldOrder_eq_specOrder' (ops : List OpParts) (opcode : Field) (sfx : Option Field)
    (revArgs revCodes : Bool) :
    fieldOrder ops opcode sfx revArgs revCodes = specOrder ops opcode sfx revArgs revCodes := by
  have h := prefixCodes_eq ops []
  rw [List.append_nil] at h
  unfold fieldOrder specOrder
  simp only
  rw [← h]
  rfl

theorem flatMap_range_length8 {α} {f : Nat → List α} (hf : ∀ j, (f j).length = 8) (m : Nat) :
    ((List.range m).flatMap f).length = 8 * m := by
  rw [length_flatMap_const 8 (fun j _ => hf j), List.length_range]

theorem flatMap_range_getElem? {α} {f : Nat → List α} (hf : ∀ j, (f j).length = 8) {m j b : Nat}
    (hj : j < m) (hb : b < 8) : ((List.range m).flatMap f)[8 * j + b]? = (f j)[b]? := by
  induction m with
  | zero => cases hj
  | succ m ih =>
    rw [List.range_succ, List.flatMap_append]
    have hl := flatMap_range_length8 hf m
    rcases Nat.lt_succ_iff_lt_or_eq.mp hj with hjm | rfl
    · rw [List.getElem?_append_left (by omega)]; exact ih hjm
    · rw [List.getElem?_append_right (hl ▸ Nat.le_add_right _ _), hl, Nat.add_sub_cancel_left, List.flatMap_singleton]

theorem revRange_getElem? {α} (g : Nat → α) {c b : Nat} (hb : b < c) :
    ((List.range c).reverse.map g)[b]? = some (g (c - 1 - b)) := by
  have hlen : b < ((List.range c).reverse.map g).length := by simpa using hb
  rw [List.getElem?_eq_getElem hlen]
  simp [List.getElem_reverse]

end BV
