/-
  C16, listing: the rows a statement's bytes are spread over (`chunkRows`, `encListingLine`) are put together
  again by `mergePRows`.
-/
import BespokeVerif.Model.Listing
namespace BV

theorem chunkRows_flatten {k : Nat} (hk : 0 < k) (f : Nat) (bs : List Nat) (hf : bs.length ≤ f) :
    (chunkRows k f bs).flatten = bs := by
  induction f generalizing bs with
  | zero => rw [List.eq_nil_of_length_eq_zero (Nat.le_zero.1 hf)]; rfl
  | succ f ih =>
    cases bs with
    | nil => rfl
    | cons b bs' =>
      -- a non-empty list loses at least one byte per row, so the fuel lasts
      rw [chunkRows, if_neg (by simp), List.flatten_cons,
        ih _ (by rw [List.length_drop]; exact Nat.sub_le_of_le_add (Nat.le_trans hf (Nat.add_le_add_left hk _))),
        List.take_append_drop]

theorem chunkRows_row_le (k : Nat) (f : Nat) (bs : List Nat) : ∀ c ∈ chunkRows k f bs, c.length ≤ k := by
  induction f generalizing bs with
  | zero => exact fun _ h => nomatch h
  | succ f ih =>
    rw [chunkRows]
    split
    · exact fun _ h => nomatch h
    · exact List.forall_mem_cons.2 ⟨List.length_take_le _ _, ih _⟩

theorem mergePRows_conts (cs : List (List Nat)) (rest : List PRow) (r : LRow) (acc : List LRow) :
    mergePRows (cs.map .cont ++ rest) (r :: acc) = mergePRows rest ({ r with bytes := r.bytes ++ cs.flatten } :: acc) := by
  induction cs generalizing r with
  | nil => rw [List.flatten_nil, List.append_nil]; rfl
  | cons c cs ih => rw [List.map_cons, List.cons_append, mergePRows, ih, List.flatten_cons, List.append_assoc]

theorem encListingLine_eq {k : Nat} (hk : 0 < k) (r : LRow) :
    ∃ (c : List Nat) (cs : List (List Nat)),
      encListingLine k r = .primary r.lineNo r.addr c :: cs.map .cont ∧ c ++ cs.flatten = r.bytes := by
  have hfl := chunkRows_flatten hk r.bytes.length r.bytes (Nat.le_refl _)
  unfold encListingLine
  cases hc : chunkRows k r.bytes.length r.bytes with
  | nil => rw [hc] at hfl; exact ⟨[], [], rfl, hfl⟩
  | cons c cs => rw [hc] at hfl; exact ⟨c, cs, rfl, hfl⟩

theorem mergePRows_line {k : Nat} (hk : 0 < k) (r : LRow) (rest : List PRow) (acc : List LRow) :
    mergePRows (encListingLine k r ++ rest) acc = mergePRows rest (r :: acc) := by
  obtain ⟨c, cs, e, hb⟩ := encListingLine_eq hk r
  rw [e, List.cons_append, mergePRows, mergePRows_conts]
  show mergePRows rest ({ lineNo := r.lineNo, addr := r.addr, bytes := c ++ cs.flatten } :: acc) = _
  rw [hb]

/-- `acc` holds the statements decoded so far, last first -/
theorem mergePRows_listing {k : Nat} (hk : 0 < k) (rows : List LRow) (acc : List LRow) :
    mergePRows (rows.flatMap (encListingLine k)) acc = acc.reverse ++ rows := by
  induction rows generalizing acc with
  | nil => exact (List.append_nil _).symm
  | cons r rows ih =>
    rw [List.flatMap_cons, mergePRows_line hk, ih, List.reverse_cons, List.append_assoc]
    rfl

end BV
