/-
  Render / parse round trips: a directive word, a blank and an argument text without blanks are read
  back as the statement built from the argument (`PlainArg`: what is asked of the text).  The decimal
  spelling of a number is such a text (`decimal_arg`); `renderSimple`, `renderLabels` write nothing else.
-/
import BespokeVerif.Lemmas.Parse
import BespokeVerif.Lemmas.ExprLex
import BespokeVerif.Lemmas.ExprParse
import BespokeVerif.Lemmas.Split
namespace BV
open LexLemmas SplitLemmas

/-- Proved once for the whole list: evaluating a string literal is dear. -/
theorem directiveWords_spec : ∀ name ∈ directiveWords,
    NameText name.toList ∧ name.toList.head? = some '.' ∧ name.toList.map Char.toLower = name.toList := by
  unfold NameText
  decide +kernel

theorem parseStmts_word (cfg : PCfg) (f : Nat) {name : String} (hn : name ∈ directiveWords) {a : List Char} (ha : Solid a) :
    parseStmts cfg (f + 1) (name.toList ++ ' ' :: a) = directive cfg (parseStmts cfg f) name (' ' :: a) := by
  obtain ⟨hd, hdot, hlow⟩ := directiveWords_spec name hn
  have ht : ptrim (name.toList ++ ' ' :: a) = name.toList ++ ' ' :: a := hd.solid.ptrim_between ha [' ']
  rw [parseStmts_directive cfg f ht hd hdot (by intro c hc; cases hc; decide), lowerS_eq, hlow, String.ofList_toList]

theorem directive_unknown {cfg : PCfg} {k : List Char → Except Err (List Stmt)} {name : String} {rest : List Char}
    (h : name ∉ directiveWords) : directive cfg k name rest = .error .badDirective := by
  simp only [directiveWords, List.mem_cons, List.not_mem_nil, or_false, not_or] at h
  rw [directive.eq_def]
  split
  case h_13 => rfl
  all_goals simp only [not_true_eq_false, false_and, and_false] at h

/-- a line that is one directive, written as `renderSimple` writes it (`word`: the directive word with a
    blank behind it): the directive reads its argument and leaves nothing -/
theorem parseStmts_word_line (cfg : PCfg) (f : Nat) {word name : String} (hw : word = name ++ " ")
    {a : List Char} (ha : Solid a) {s : Stmt}
    (hd : ∀ k, directive cfg k name (' ' :: a) = (do .ok (s :: (← k [])))) :
    parseStmts cfg (f + 2) (word.toList ++ a) = .ok [s] := by
  -- a directive that succeeds is one of the directive words
  have hn : name ∈ directiveWords := Decidable.by_contra fun hn =>
    nomatch (directive_unknown hn).symm.trans (hd fun _ => .ok [])
  rw [hw, String.toList_append, show " ".toList = [' '] from rfl, List.append_assoc, List.singleton_append,
    parseStmts_word cfg (f + 1) hn ha, hd, parseStmts_nil]
  rfl

structure PlainArg (a : List Char) (e : E) : Prop where
  solid : Solid a
  plain : ∀ c ∈ a, c ≠ ':' ∧ c ≠ ',' ∧ isQuote c = false
  reads : parseExprText a = .ok e

theorem PlainArg.cut {a : List Char} {e : E} (h : PlainArg a e) : cutAtLabelDef [] (' ' :: a) = (' ' :: a, []) :=
  cutAtLabelDef_solid h.solid fun c hc => (h.plain c hc).1

theorem PlainArg.comma_free {a : List Char} {e : E} (h : PlainArg a e) : ∀ c ∈ a, c ≠ ',' ∧ c ≠ '\'' :=
  fun c hc => ⟨(h.plain c hc).2.1, ne_of_apply_ne isQuote (by rw [(h.plain c hc).2.2]; decide)⟩

theorem directive_arg (cfg : PCfg) (k : List Char → Except Err (List Stmt)) {a : List Char} {e : E} (h : PlainArg a e) :
    directive cfg k ".zero" (' ' :: a) = (do .ok (.fill e (.num 0) :: (← k []))) ∧
    directive cfg k ".zerountil" (' ' :: a) = (do .ok (.zerountil e :: (← k []))) ∧
    directive cfg k ".align" (' ' :: a) = (do .ok (.align (some e) :: (← k []))) ∧
    directive cfg k ".org" (' ' :: a) = (do .ok (.org e none :: (← k []))) := by
  have hne : a.isEmpty = false := by simpa using h.solid.1
  have hq : a.getLast? ≠ some '"' := fun hl => absurd (h.plain _ (List.mem_of_getLast? hl)).2.2 (by decide)
  refine ⟨?_, ?_, ?_, ?_⟩
  · simp only [directive.eq_def, h.cut, h.solid.ptrim_blank, h.reads]; rfl
  · simp only [directive.eq_def, h.cut, h.solid.ptrim_blank, h.reads]; rfl
  · simp only [directive.eq_def, h.cut, h.solid.ptrim_blank, h.reads, hne, Bool.false_eq_true, if_false]; rfl
  · rw [directive_org cfg k h.cut h.solid hq, h.reads]; rfl

theorem Solid.append_comma {a b : List Char} (ha : Solid a) (hb : Solid b) : Solid (a ++ ',' :: b) := by
  refine ⟨by simp, ?_⟩
  simp only [List.mem_append, List.mem_cons]
  rintro c (h | rfl | h)
  · exact ha.2 c h
  · rfl
  · exact hb.2 c h

theorem directive_fill (cfg : PCfg) (k : List Char → Except Err (List Stmt)) {a b : List Char} {x y : E}
    (ha : PlainArg a x) (hb : PlainArg b y) :
    directive cfg k ".fill" (' ' :: (a ++ ',' :: b)) = (do .ok (.fill x y :: (← k []))) := by
  have hs := ha.solid.append_comma hb.solid
  have hc : ∀ c ∈ a ++ ',' :: b, c ≠ ':' := by
    simp only [List.mem_append, List.mem_cons]
    rintro c (h | rfl | h)
    · exact (ha.plain c h).1
    · decide
    · exact (hb.plain c h).1
  simp only [directive.eq_def, cutAtLabelDef_solid hs hc, hs.ptrim_blank, ha.solid.ptrim_eq, hb.solid.ptrim_eq, ha.reads,
    hb.reads, splitCommas_pair ha.comma_free hb.comma_free]
  rfl

theorem parseData_single (cfg : PCfg) {w : Nat} {a : List Char} {e : E} (h : PlainArg a e) :
    parseData cfg w none (' ' :: a) = .ok (.data w [e], []) := by
  have hne : a.isEmpty = false := by simpa using h.solid.1
  have hl := h.solid.ptrimL_blank []
  rw [List.append_nil] at hl
  obtain ⟨a0, a', rfl⟩ := List.exists_cons_of_ne_nil h.solid.1
  simp only [parseData, hl, (h.plain a0 (List.mem_cons_self ..)).2.2, Bool.false_eq_true, if_false, Option.isSome_none,
    h.solid.ptrim_eq, splitCommas_single h.comma_free, List.filter, hne, Bool.not_false, List.mapM_cons, List.mapM_nil, h.reads]
  rfl

theorem directive_data (cfg : PCfg) (k : List Char → Except Err (List Stmt)) {a : List Char} {e : E} (h : PlainArg a e) :
    directive cfg k ".byte" (' ' :: a) = (do .ok (.data 1 [e] :: (← k []))) ∧
    directive cfg k ".2byte" (' ' :: a) = (do .ok (.data 2 [e] :: (← k []))) ∧
    directive cfg k ".4byte" (' ' :: a) = (do .ok (.data 4 [e] :: (← k []))) ∧
    directive cfg k ".8byte" (' ' :: a) = (do .ok (.data 8 [e] :: (← k []))) := by
  refine ⟨?_, ?_, ?_, ?_⟩
  · simp only [directive.eq_def, parseData_single cfg h]; rfl
  · simp only [directive.eq_def, parseData_single cfg h]; rfl
  · simp only [directive.eq_def, parseData_single cfg h]; rfl
  · simp only [directive.eq_def, parseData_single cfg h]; rfl

theorem parseStmts_const (cfg : PCfg) (f : Nat) {w a : List Char} (hw : NameText w) (hdot : w.head? ≠ some '.')
    (ha : Solid a) :
    parseStmts cfg (f + 1) (w ++ " = ".toList ++ a) = (do .ok [.const (String.ofList w) (← parseExprText a)]) := by
  have hline : w ++ " = ".toList ++ a = w ++ ' ' :: '=' :: ' ' :: a := by simp
  have ht : ptrim (w ++ ' ' :: '=' :: ' ' :: a) = w ++ ' ' :: '=' :: ' ' :: a := hw.solid.ptrim_between ha [' ', '=', ' ']
  have hr1 : ptrimL (' ' :: '=' :: ' ' :: a) = '=' :: ' ' :: a := rfl
  rw [hline, parseStmts_succ, ht, stmtStep_name cfg hw (by intro c hc; cases hc; decide), beq_false_of_ne hdot, hr1,
    show ptrim ('=' :: ' ' :: a).tail = a from ha.ptrim_blank]
  rfl

theorem parseExprText_decimal (n : Nat) : parseExprText (Nat.toDigits 10 n) = .ok (.num n) := by
  rw [parseExprText, lex_decimal n]
  exact ParseLemmas.parseExpr_complete (ParseLemmas.gram_mono (Nat.zero_le _) Gram.num)

/-- the decimal spelling of a number as an argument text (`v`: the number as the statement holds it) -/
theorem decimal_arg {n : Nat} (v : Int) (hv : v = n) : PlainArg (Nat.toDigits 10 n) (.num v) := by
  have hd : ∀ c ∈ Nat.toDigits 10 n, isWordChar c = true := fun c h => by
    simp [isWordChar, Char.isAlphanum, Nat.isDigit_of_mem_toDigits (by decide) (by decide) h]
  have hne : ∀ d, isWordChar d = false → ∀ c ∈ Nat.toDigits 10 n, c ≠ d := fun d hd' c h =>
    ne_of_apply_ne isWordChar (by rw [hd c h, hd']; decide)
  exact ⟨⟨Nat.toDigits_ne_nil, fun c h => wordChar_not_space (hd c h)⟩,
    fun c h => ⟨hne ':' (by decide) c h, hne ',' (by decide) c h, not_quote (p := isWordChar) (by decide) (by decide) (hd c h)⟩,
    hv ▸ parseExprText_decimal n⟩

/-- the text a renderer writes for the simplest statements: a label, a constant, an origin, a zone switch,
    a one-value data line, `.fill`, `.zerountil`, `.align`; every number non-negative and in decimal -/
def renderSimple : Stmt → Option (List Char)
  | .label name => if name.toList ≠ [] ∧ name.toList.all isNameChar then some (name.toList ++ [':']) else none
  | .org (.num v) none => if 0 ≤ v then some (".org ".toList ++ Nat.toDigits 10 v.toNat) else none
  | .memzone z => if z.toList ≠ [] ∧ z.toList.all isWordChar then some (".memzone ".toList ++ z.toList) else none
  | .data 1 [.num v] => if 0 ≤ v then some (".byte ".toList ++ Nat.toDigits 10 v.toNat) else none
  | .data 2 [.num v] => if 0 ≤ v then some (".2byte ".toList ++ Nat.toDigits 10 v.toNat) else none
  | .data 4 [.num v] => if 0 ≤ v then some (".4byte ".toList ++ Nat.toDigits 10 v.toNat) else none
  | .data 8 [.num v] => if 0 ≤ v then some (".8byte ".toList ++ Nat.toDigits 10 v.toNat) else none
  | .fill (.num c) (.num v) =>
    if 0 ≤ c ∧ 0 ≤ v then some (".fill ".toList ++ Nat.toDigits 10 c.toNat ++ ',' :: Nat.toDigits 10 v.toNat) else none
  | .zerountil (.num v) => if 0 ≤ v then some (".zerountil ".toList ++ Nat.toDigits 10 v.toNat) else none
  | .align (some (.num v)) => if 0 ≤ v then some (".align ".toList ++ Nat.toDigits 10 v.toNat) else none
  | .const name (.num v) =>
    if name.toList ≠ [] ∧ name.toList.all isNameChar ∧ name.toList.head? ≠ some '.' ∧ 0 ≤ v
    then some (name.toList ++ " = ".toList ++ Nat.toDigits 10 v.toNat) else none
  | _ => none

/-- labels written in front of a statement on one line, each followed by a blank -/
def renderLabels : List String → List Char
  | [] => []
  | w :: ws => w.toList ++ ':' :: ' ' :: renderLabels ws

end BV
