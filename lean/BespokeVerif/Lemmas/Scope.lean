/-
  C06 (label scopes): the three association lists of `Labels`,
  `Labels.lookup` / `Labels.set` in terms of per-table getters.
-/
import BespokeVerif.Model.Layout
import BespokeVerif.Lemmas.Basics
namespace BV

theorem labelKind_cases (n : String) : labelKind n = 0 ∨ labelKind n = 1 ∨ labelKind n = 2 := by
  unfold labelKind; split <;> simp

def locGet (l : List (Nat × Nat × String × Int)) (f k : Nat) (name : String) : Option Int :=
  (l.find? fun e => e.1 == f && e.2.1 == k && e.2.2.1 == name).map (·.2.2.2)

def fileGet (l : List (Nat × String × Int)) (f : Nat) (name : String) : Option Int :=
  (l.find? fun e => e.1 == f && e.2.1 == name).map (·.2.2)

theorem lookup_loc_eq (L : Labels) (regs : List String) (f k : Nat) (name : String) :
    L.lookup regs (.loc f k) name =
      match locGet L.loc f k name with
      | some v => .ok v
      | none =>
        match fileGet L.file f name with
        | some v => .ok v
        | none =>
          if isRegName regs name then .error .unresolvedLabel
          else match assocGet L.glob name with
            | some v => .ok v
            | none => .error .unresolvedLabel := rfl

theorem lookup_file_eq (L : Labels) (regs : List String) (f : Nat) (name : String) :
    L.lookup regs (.file f) name =
      match fileGet L.file f name with
      | some v => .ok v
      | none =>
        if isRegName regs name then .error .unresolvedLabel
        else match assocGet L.glob name with
          | some v => .ok v
          | none => .error .unresolvedLabel := rfl

/-! Each getter is `(l.find? p).map g`; what is needed of it comes from the library's lemmas on `find?`. -/

theorem findMap_append {α β} (p : α → Bool) (g : α → β) (l : List α) (x : α) :
    ((l ++ [x]).find? p).map g = ((l.find? p).map g).or (if p x then some (g x) else none) := by
  rw [List.find?_append, Option.map_or, List.find?_singleton]
  split <;> rfl

theorem locGet_some_mem {l f k n v} (h : locGet l f k n = some v) : (f, k, n, v) ∈ l := by
  obtain ⟨⟨a, b, c, d⟩, he, rfl⟩ := Option.map_eq_some_iff.1 h
  have hp := List.find?_some he
  simp only [Bool.and_eq_true, beq_iff_eq] at hp
  obtain ⟨⟨rfl, rfl⟩, rfl⟩ := hp
  exact List.mem_of_find?_eq_some he

theorem locGet_eq_none_iff {l f k n} : locGet l f k n = none ↔ ∀ v, (f, k, n, v) ∉ l :=
  ⟨fun h v hm => by simpa using List.find?_eq_none.1 (Option.map_eq_none_iff.1 h) _ hm,
   fun h => Option.eq_none_iff_forall_ne_some.2 fun v hg => h v (locGet_some_mem hg)⟩

theorem locGet_append {l f k n f' k' n' v'} :
    locGet (l ++ [(f', k', n', v')]) f k n =
      (locGet l f k n).or (if f' = f ∧ k' = k ∧ n' = n then some v' else none) := by
  unfold locGet
  rw [findMap_append]
  simp [and_assoc]

theorem loc_any_eq {l : List (Nat × Nat × String × Int)} {f k n} :
    (l.any fun e => e.1 == f && e.2.1 == k && e.2.2.1 == n) = (locGet l f k n).isSome := by
  unfold locGet
  rw [Option.isSome_map, List.isSome_find?]

theorem fileGet_some_mem {l f n v} (h : fileGet l f n = some v) : (f, n, v) ∈ l := by
  obtain ⟨⟨a, b, c⟩, he, rfl⟩ := Option.map_eq_some_iff.1 h
  have hp := List.find?_some he
  simp only [Bool.and_eq_true, beq_iff_eq] at hp
  obtain ⟨rfl, rfl⟩ := hp
  exact List.mem_of_find?_eq_some he

theorem fileGet_eq_none_iff {l f n} : fileGet l f n = none ↔ ∀ v, (f, n, v) ∉ l :=
  ⟨fun h v hm => by simpa using List.find?_eq_none.1 (Option.map_eq_none_iff.1 h) _ hm,
   fun h => Option.eq_none_iff_forall_ne_some.2 fun v hg => h v (fileGet_some_mem hg)⟩

theorem fileGet_append {l f n f' n' v'} :
    fileGet (l ++ [(f', n', v')]) f n =
      (fileGet l f n).or (if f' = f ∧ n' = n then some v' else none) := by
  unfold fileGet
  rw [findMap_append]
  simp

theorem file_any_eq {l : List (Nat × String × Int)} {f n} :
    (l.any fun e => e.1 == f && e.2.1 == n) = (fileGet l f n).isSome := by
  unfold fileGet
  rw [Option.isSome_map, List.isSome_find?]

theorem globGet_some_mem {l : List (String × Int)} {n v} (h : assocGet l n = some v) : (n, v) ∈ l := by
  obtain ⟨⟨a, b⟩, he, rfl⟩ := Option.map_eq_some_iff.1 h
  have hp := List.find?_some he
  simp only [beq_iff_eq] at hp
  subst hp
  exact List.mem_of_find?_eq_some he

theorem globGet_eq_none_iff {l : List (String × Int)} {n} : assocGet l n = none ↔ ∀ v, (n, v) ∉ l :=
  ⟨fun h v hm => by simpa using List.find?_eq_none.1 (Option.map_eq_none_iff.1 h) _ hm,
   fun h => Option.eq_none_iff_forall_ne_some.2 fun v hg => h v (globGet_some_mem hg)⟩

theorem globGet_append {l : List (String × Int)} {n n' v'} :
    assocGet (l ++ [(n', v')]) n = (assocGet l n).or (if n' = n then some v' else none) := by
  unfold assocGet
  rw [findMap_append]
  simp

/-- the local-table part of a lookup from scope `sc` -/
def scGet (L : Labels) (sc : Scope) (name : String) : Option Int :=
  match sc with
  | .loc f k => locGet L.loc f k name
  | .file _ => none

theorem lookup_eq (L : Labels) (regs : List String) (sc : Scope) (name : String) :
    L.lookup regs sc name =
      match scGet L sc name with
      | some v => .ok v
      | none =>
        match fileGet L.file sc.fileId name with
        | some v => .ok v
        | none =>
          if isRegName regs name then .error .unresolvedLabel
          else match assocGet L.glob name with
            | some v => .ok v
            | none => .error .unresolvedLabel := by
  cases sc <;> rfl

theorem lookup_eq_ok_iff {L : Labels} {regs : List String} {sc : Scope} {name : String} {v : Int} :
    L.lookup regs sc name = .ok v ↔
      scGet L sc name = some v ∨
      (scGet L sc name = none ∧
        (fileGet L.file sc.fileId name = some v ∨
         (fileGet L.file sc.fileId name = none ∧ isRegName regs name = false ∧
            assocGet L.glob name = some v))) := by
  rw [lookup_eq]
  cases scGet L sc name with
  | some w => simp
  | none =>
    cases fileGet L.file sc.fileId name with
    | some w => simp
    | none =>
      cases isRegName regs name with
      | true => simp
      | false => cases assocGet L.glob name <;> simp

theorem lookup_error {L : Labels} {regs : List String} {sc name}
    (h1 : scGet L sc name = none) (h2 : fileGet L.file sc.fileId name = none)
    (h3 : isRegName regs name = true ∨ assocGet L.glob name = none) :
    L.lookup regs sc name = .error .unresolvedLabel := by
  rw [lookup_eq, h1, h2]
  rcases h3 with h3 | h3
  · simp only [h3, if_true]
  · simp only [h3]; split <;> rfl

theorem scGet_none_of_kind {L : Labels} {sc name k}
    (hw : ∀ e ∈ L.loc, labelKind e.2.2.1 = 2) (hk : labelKind name = k) (hne : k ≠ 2 := by decide) :
    scGet L sc name = none := by
  cases sc with
  | file f => rfl
  | loc f j =>
    -- `hw _ hm` is taken first: elaborated against `labelKind name = _` it makes the unifier compare
    -- `labelKind ?e.2.2.1` with `labelKind name` while `?e` is unknown, which it does by unfolding `labelKind`:
    -- three million heartbeats
    exact locGet_eq_none_iff.2 fun _ hm => have h := hw _ hm; hne (hk.symm.trans h)

theorem fileGet_none_of_kind {l : List (Nat × String × Int)} {f name k}
    (hw : ∀ e ∈ l, labelKind e.2.1 = 1) (hk : labelKind name = k) (hne : k ≠ 1 := by decide) :
    fileGet l f name = none :=
  fileGet_eq_none_iff.2 fun _ hm => have h := hw _ hm; hne (hk.symm.trans h)

theorem globGet_none_of_kind {l : List (String × Int)} {name k}
    (hw : ∀ e ∈ l, labelKind e.1 = 0) (hk : labelKind name = k) (hne : k ≠ 0 := by decide) :
    assocGet l name = none :=
  globGet_eq_none_iff.2 fun _ hm => have h := hw _ hm; hne (hk.symm.trans h)

theorem set_eq_ok_iff {L L' : Labels} {sc : Scope} {name : String} {v : Int} :
    L.set sc name v = .ok L' ↔
      keywords.contains (labelBase name) = false ∧
      ((labelKind name = 0 ∧ assocGet L.glob name = none ∧
          L' = { L with glob := L.glob ++ [(name, v)] }) ∨
       (labelKind name = 1 ∧ fileGet L.file sc.fileId name = none ∧
          L' = { L with file := L.file ++ [(sc.fileId, name, v)] }) ∨
       (labelKind name = 2 ∧ ∃ f k, sc = .loc f k ∧ locGet L.loc f k name = none ∧
          L' = { L with loc := L.loc ++ [(f, k, name, v)] })) := by
  constructor
  · intro h
    unfold Labels.set at h
    obtain ⟨hkw, h⟩ := ite_error_eq_ok h
    refine ⟨Bool.eq_false_iff.2 hkw, ?_⟩
    rcases labelKind_cases name with hk | hk | hk <;> simp only [hk] at h
    · obtain ⟨hn, h⟩ := ite_error_eq_ok h
      cases h
      exact .inl ⟨hk, Option.not_isSome_iff_eq_none.1 hn, rfl⟩
    · rw [file_any_eq] at h
      obtain ⟨hn, h⟩ := ite_error_eq_ok h
      cases h
      exact .inr (.inl ⟨hk, Option.not_isSome_iff_eq_none.1 hn, rfl⟩)
    · cases sc with
      | file g => cases h
      | loc f k =>
        simp only [loc_any_eq] at h
        obtain ⟨hn, h⟩ := ite_error_eq_ok h
        cases h
        exact .inr (.inr ⟨hk, f, k, rfl, Option.not_isSome_iff_eq_none.1 hn, rfl⟩)
  · rintro ⟨hkw, hc⟩
    unfold Labels.set
    rw [hkw]
    rcases hc with ⟨hk, hn, rfl⟩ | ⟨hk, hn, rfl⟩ | ⟨hk, f, k, rfl, hn, rfl⟩
    · simp [hk, hn]
    · simp [hk, file_any_eq, hn]
    · simp [hk, loc_any_eq, hn]

theorem set_mono {L L' : Labels} {sc' : Scope} {name' : String} {v' : Int}
    (h : L.set sc' name' v' = .ok L') :
    (∀ {sc name v}, scGet L sc name = some v → scGet L' sc name = some v) ∧
    (∀ {f name v}, fileGet L.file f name = some v → fileGet L'.file f name = some v) ∧
    (∀ {name v}, assocGet L.glob name = some v → assocGet L'.glob name = some v) := by
  rcases (set_eq_ok_iff.1 h).2 with ⟨-, -, rfl⟩ | ⟨-, -, rfl⟩ | ⟨-, f, k, -, -, rfl⟩
  · exact ⟨id, id, fun hv => by rw [globGet_append, hv, Option.some_or]⟩
  · exact ⟨id, fun hv => by rw [fileGet_append, hv, Option.some_or], id⟩
  · refine ⟨@fun sc _ _ hv => ?_, id, id⟩
    cases sc with
    | file g => exact hv
    | loc g j => rw [scGet] at hv ⊢; rw [locGet_append, hv, Option.some_or]

end BV
