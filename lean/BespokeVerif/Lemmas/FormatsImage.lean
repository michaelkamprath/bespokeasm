/-
  The address→byte pairs of the emitted lines (`emittedMap`, what `C16.printers_fed_image_lines` shows the pretty
  printers are fed): a byte of the image is the first pair of that list with its address.
-/
import BespokeVerif.Model.Pipeline
import BespokeVerif.Lemmas.ImageFast
import BespokeVerif.Lemmas.Output
namespace BV

def emittedMap (es : List Emitted) : AddrMap :=
  es.flatMap fun e =>
    if e.isByte && !e.muted then (List.range e.bytes.length).map fun (i : Nat) => (e.addr + (i : Int), e.bytes[i]!) else []

theorem emittedMap_cons (e : Emitted) (es : List Emitted) :
    emittedMap (e :: es) = (if e.isByte && !e.muted then rowMap e.addr e.bytes else []) ++ emittedMap es :=
  List.flatMap_cons

theorem mapGet_rowMap (a a' : Int) (bs : List Nat) :
    mapGet (rowMap a bs) a' =
      if a ≤ a' ∧ a' < a + bs.length then some bs[(a' - a).toNat]! else none := by
  induction bs generalizing a with
  | nil => exact (if_neg (by simp only [List.length_nil]; omega)).symm
  | cons b bs ih =>
    rw [rowMap_cons, mapGet_cons, ih, List.length_cons]
    by_cases h : a = a'
    · subst h
      rw [if_pos rfl, if_pos (by omega), Int.sub_self]; rfl
    · rw [if_neg h]
      -- away from `a` the window from `a + 1` has the members of the window from `a`, at an offset one less
      refine ite_congr (propext (by omega)) (fun _ => ?_) fun _ => rfl
      rw [show (a' - a).toNat = (a' - (a + 1)).toNat + 1 by omega]
      rfl

theorem mapGet_lineMap (e : Emitted) (a : Int) :
    mapGet (if e.isByte && !e.muted then rowMap e.addr e.bytes else []) a = lineGet a e := by
  unfold lineGet cov
  cases e.isByte && !e.muted
  · rfl
  · rw [if_pos rfl, mapGet_rowMap]
    simp only [Bool.true_and, Bool.and_eq_true, decide_eq_true_eq]

theorem mapGet_emittedMap (es : List Emitted) (a : Int) :
    mapGet (emittedMap es) a = es.findSome? (lineGet a) := by
  unfold mapGet emittedMap
  rw [List.find?_flatMap, List.map_findSome?]
  congr 1
  funext e
  exact mapGet_lineMap e a

end BV
