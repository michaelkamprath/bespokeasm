/-
  C07, parser: the fuel-indexed recursive-descent parser `parseLevel`/`parseLoop` is sound and complete for the
  stratified grammar `Gram`, and with the fuel of `parseFuel` its only error is `badExpression`. Three inductions:
  `sound_aux` and `err_aux` on the fuel, `complete_aux` on the derivation (for every fuel, so that no two fuels
  are ever compared).
-/
import BespokeVerif.Model.Expr
import BespokeVerif.Lemmas.Basics
import BespokeVerif.Lemmas.Fuel
namespace BV
namespace ParseLemmas

theorem parseLevel_zero {lvl ts} : parseLevel 0 lvl ts = .error .outOfFuel := by
  rw [parseLevel.eq_def]

theorem parseLoop_zero {lvl l ts} : parseLoop 0 lvl l ts = .error .outOfFuel := by
  rw [parseLoop.eq_def]

theorem parseLevel_lt {f lvl ts} (h : lvl < 4) : parseLevel (f+1) lvl ts =
    (parseLevel f (lvl + 1) ts >>= fun p => parseLoop f lvl p.1 p.2) := by
  rw [parseLevel.eq_def]
  exact if_pos h

/-- the continuation after the inner expression of `( … )` / `BYTEk( … )` -/
def closeK (mk : E → E) (p : E × List Tok) : Except Err (E × List Tok) :=
  match p.2 with
  | .rpar :: rest'' => .ok (mk p.1, rest'')
  | _ => .error .badExpression

theorem parseLevel_num {f n rest} : parseLevel (f+1) 4 (.num n :: rest) = .ok (.num n, rest) := rfl

theorem parseLevel_label {f s rest} :
    parseLevel (f+1) 4 (.label s :: rest) = .ok (.label s, rest) := rfl

theorem parseLevel_neg {f rest} : parseLevel (f+1) 4 (.op .sub :: rest) =
    (parseLevel f 4 rest >>= fun p => .ok (.neg p.1, p.2)) := rfl

theorem parseLevel_byteFn {f k rest} : parseLevel (f+1) 4 (.byteFn k :: rest) =
    (parseLevel f 0 rest >>= closeK (.byteN k)) := rfl

theorem parseLevel_lpar {f rest} : parseLevel (f+1) 4 (.lpar :: rest) =
    (parseLevel f 0 rest >>= closeK id) := rfl

/-- the one place where the atom level is split by head token: five shapes have an equation above,
    every other input is rejected -/
theorem parseLevel_four_cases (f ts) :
    (∃ n rest, ts = .num n :: rest) ∨ (∃ s rest, ts = .label s :: rest) ∨
    (∃ rest, ts = .op .sub :: rest) ∨ (∃ k rest, ts = .byteFn k :: rest) ∨
    (∃ rest, ts = .lpar :: rest) ∨ parseLevel (f+1) 4 ts = .error .badExpression := by
  rcases ts with _ | ⟨t, rest⟩
  · exact .inr (.inr (.inr (.inr (.inr rfl))))
  · cases t with
    | num n => exact .inl ⟨n, rest, rfl⟩
    | label s => exact .inr (.inl ⟨s, rest, rfl⟩)
    | byteFn k => exact .inr (.inr (.inr (.inl ⟨k, rest, rfl⟩)))
    | lpar => exact .inr (.inr (.inr (.inr (.inl ⟨rest, rfl⟩))))
    | rpar => exact .inr (.inr (.inr (.inr (.inr rfl))))
    | op o =>
      cases o
      case sub => exact .inr (.inr (.inl ⟨rest, rfl⟩))
      all_goals exact .inr (.inr (.inr (.inr (.inr rfl))))

theorem headOp_cases (lvl ts) :
    (∃ o ts', ts = .op o :: ts' ∧ o.level = lvl) ∨ headOp lvl ts = none := by
  unfold headOp
  split
  · next o ts' =>
    by_cases h : o.level = lvl
    · exact .inl ⟨o, ts', rfl, h⟩
    · exact .inr (if_neg h)
  · exact .inr rfl

theorem parseLoop_op {f lvl l o ts} (h : o.level = lvl) : parseLoop (f+1) lvl l (.op o :: ts) =
    (parseLevel f (lvl + 1) ts >>= fun p => parseLoop f lvl (.bin o l p.1) p.2) := by
  rw [parseLoop.eq_def]
  simp only [headOp, h, if_true]
  rfl

theorem parseLoop_none {f lvl l ts} (h : headOp lvl ts = none) :
    parseLoop (f+1) lvl l ts = .ok (l, ts) := by
  rw [parseLoop.eq_def]
  simp only [h]

theorem bind_error {α β} (e : Err) (g : α → Except Err β) :
    ((Except.error e : Except Err α) >>= g) = .error e := rfl

theorem closeK_ok {mk : E → E} {e₁ r₁ e rest} (h : closeK mk (e₁, r₁) = .ok (e, rest)) :
    r₁ = .rpar :: rest ∧ e = mk e₁ := by
  unfold closeK at h
  split at h
  · next rest'' heq => cases h; exact ⟨heq, rfl⟩
  · cases h

theorem closeK_onlyBad {mk : E → E} {p : E × List Tok} : OnlyBad (closeK mk p) := by
  unfold closeK
  split
  · exact .ok _
  · exact .error rfl

theorem gram_le_four {lvl ts e} (h : Gram lvl ts e) : lvl ≤ 4 := by
  induction h with
  | up hl _ _ => exact Nat.le_of_lt hl
  | bin hl _ _ _ _ _ => exact Nat.le_of_lt hl
  | _ => exact Nat.le_refl 4

theorem gram_length_pos {lvl ts e} (h : Gram lvl ts e) : 0 < ts.length := by
  induction h with
  | up _ _ ih => exact ih
  | bin _ _ _ _ _ ih₂ =>
    rw [List.length_append]
    exact Nat.lt_of_lt_of_le ih₂ (Nat.le_add_left _ _)
  | _ => exact Nat.succ_pos _

theorem gram_mono {lvl' lvl ts e} (hle : lvl' ≤ lvl) : Gram lvl ts e → Gram lvl' ts e := by
  induction hle with
  | refl => exact id
  | step _ ih => exact fun h => ih (Gram.up (gram_le_four h) h)

/-- Each equation of the parser is one constructor of `Gram`. The operator loop is handed the left operand `l`
    together with what was read for it (`pre₀`) and extends that derivation. -/
theorem sound_aux (f : Nat) :
    (∀ {lvl ts e rest}, lvl ≤ 4 → parseLevel f lvl ts = .ok (e, rest) →
      ∃ pre, ts = pre ++ rest ∧ Gram lvl pre e) ∧
    (∀ {lvl l ts e rest}, lvl < 4 → parseLoop f lvl l ts = .ok (e, rest) →
      ∀ pre₀, Gram lvl pre₀ l → ∃ pre, ts = pre ++ rest ∧ Gram lvl (pre₀ ++ pre) e) := by
  induction f with
  | zero =>
    refine ⟨fun _ h => ?_, fun _ h => ?_⟩
    · rw [parseLevel_zero] at h; cases h
    · rw [parseLoop_zero] at h; cases h
  | succ f ih =>
    obtain ⟨ihL, ihP⟩ := ih
    refine ⟨@fun lvl ts e rest hl4 h => ?_, @fun lvl l ts e rest hl4 h pre₀ hg => ?_⟩
    · rcases Nat.lt_or_eq_of_le hl4 with hl | rfl
      · rw [parseLevel_lt hl] at h
        obtain ⟨⟨l, rest₁⟩, h₁, h₂⟩ := bind_eq_ok h
        obtain ⟨pre₁, rfl, g₁⟩ := ihL hl h₁
        obtain ⟨pre₂, rfl, g₂⟩ := ihP hl h₂ pre₁ (Gram.up hl g₁)
        exact ⟨pre₁ ++ pre₂, (List.append_assoc _ _ _).symm, g₂⟩
      · rcases parseLevel_four_cases f ts with
          ⟨n, r, rfl⟩ | ⟨s, r, rfl⟩ | ⟨r, rfl⟩ | ⟨k, r, rfl⟩ | ⟨r, rfl⟩ | hbad
        · rw [parseLevel_num] at h
          cases h
          exact ⟨_, rfl, Gram.num⟩
        · rw [parseLevel_label] at h
          cases h
          exact ⟨_, rfl, Gram.label⟩
        · rw [parseLevel_neg] at h
          obtain ⟨⟨e₁, rest₁⟩, h₁, h₂⟩ := bind_eq_ok h
          obtain ⟨pre₁, rfl, g₁⟩ := ihL hl4 h₁
          cases h₂
          exact ⟨_, rfl, Gram.neg g₁⟩
        -- in the two bracketed cases unification with `Gram.byteN`/`Gram.paren` supplies the prefix:
        -- written out (`.lpar :: pre₁ ++ [.rpar]`) it is much dearer to elaborate
        · rw [parseLevel_byteFn] at h
          obtain ⟨⟨e₁, rest₁⟩, h₁, h₂⟩ := bind_eq_ok h
          obtain ⟨pre₁, rfl, g₁⟩ := ihL (Nat.zero_le _) h₁
          obtain ⟨rfl, rfl⟩ := closeK_ok h₂
          refine ⟨_, ?_, Gram.byteN g₁⟩
          exact (List.append_assoc (.byteFn k :: pre₁) [.rpar] rest).symm
        · rw [parseLevel_lpar] at h
          obtain ⟨⟨e₁, rest₁⟩, h₁, h₂⟩ := bind_eq_ok h
          obtain ⟨pre₁, rfl, g₁⟩ := ihL (Nat.zero_le _) h₁
          obtain ⟨rfl, rfl⟩ := closeK_ok h₂
          refine ⟨_, ?_, Gram.paren g₁⟩
          exact (List.append_assoc (.lpar :: pre₁) [.rpar] rest).symm
        · rw [hbad] at h
          cases h
    · rcases headOp_cases lvl ts with ⟨o, ts', rfl, hlev⟩ | hnone
      · rw [parseLoop_op hlev] at h
        obtain ⟨⟨r, rest₁⟩, h₁, h₂⟩ := bind_eq_ok h
        obtain ⟨pre₁, rfl, g₁⟩ := ihL hl4 h₁
        obtain ⟨pre₂, rfl, g₂⟩ := ihP hl4 h₂ _ (Gram.bin hl4 hlev hg g₁)
        rw [List.append_assoc, List.append_assoc] at g₂
        exact ⟨_, (List.append_assoc (Tok.op o :: pre₁) pre₂ rest).symm, g₂⟩
      · rw [parseLoop_none hnone] at h
        cases h
        exact ⟨[], rfl, by rw [List.append_nil]; exact hg⟩

theorem parseLevel_sound {f lvl ts e rest} (hl : lvl ≤ 4)
    (h : parseLevel f lvl ts = .ok (e, rest)) : ∃ pre, ts = pre ++ rest ∧ Gram lvl pre e :=
  (sound_aux f).1 hl h

theorem parseLevel_length_le {f lvl ts e rest} (hl : lvl ≤ 4)
    (h : parseLevel f lvl ts = .ok (e, rest)) : rest.length ≤ ts.length := by
  obtain ⟨pre, rfl, _⟩ := parseLevel_sound hl h
  rw [List.length_append]
  exact Nat.le_add_left _ _

/-- The budget: every token pays 6; one level down costs 1, entering an atom costs 1. With it the
    only error is `badExpression`, in particular never `outOfFuel`. -/
theorem err_aux (f : Nat) :
    (∀ {lvl ts}, lvl ≤ 4 → 6 * ts.length + 5 ≤ f + lvl → OnlyBad (parseLevel f lvl ts)) ∧
    (∀ lvl l ts, lvl < 4 → 6 * ts.length + 1 ≤ f → OnlyBad (parseLoop f lvl l ts)) := by
  induction f with
  | zero =>
    exact ⟨fun h4 h => absurd h (by omega), fun lvl l ts _ h => absurd h (by omega)⟩
  | succ f ih =>
    obtain ⟨ihL, ihP⟩ := ih
    refine ⟨@fun lvl ts hl4 hf => ?_, fun lvl l ts hl4 hf => ?_⟩
    · rcases Nat.lt_or_eq_of_le hl4 with hl | rfl
      · rw [parseLevel_lt hl]
        refine (ihL hl (by omega)).bind ?_
        rintro ⟨l, rest₁⟩ h₁
        have := parseLevel_length_le hl h₁
        exact ihP lvl l rest₁ hl (by omega)
      · have sub : ∀ {t r lvl'}, ts = t :: r → 6 * r.length + 5 ≤ f + lvl' := by
          rintro t r lvl' rfl
          rw [List.length_cons] at hf
          omega
        rcases parseLevel_four_cases f ts with
          ⟨n, r, rfl⟩ | ⟨s, r, rfl⟩ | ⟨r, rfl⟩ | ⟨k, r, rfl⟩ | ⟨r, rfl⟩ | hbad
        · rw [parseLevel_num]
          exact .ok _
        · rw [parseLevel_label]
          exact .ok _
        · rw [parseLevel_neg]
          exact (ihL hl4 (sub rfl)).bind (fun a _ => .ok _)
        · rw [parseLevel_byteFn]
          exact (ihL (Nat.zero_le _) (sub rfl)).bind (fun a _ => closeK_onlyBad)
        · rw [parseLevel_lpar]
          exact (ihL (Nat.zero_le _) (sub rfl)).bind (fun a _ => closeK_onlyBad)
        · rw [hbad]
          exact .error rfl
    · rcases headOp_cases lvl ts with ⟨o, ts', rfl, hlev⟩ | hnone
      · rw [parseLoop_op hlev]
        rw [List.length_cons] at hf
        refine (ihL hl4 (by omega)).bind ?_
        rintro ⟨r, rest₁⟩ h₁
        have := parseLevel_length_le hl4 h₁
        exact ihP _ (.bin o l r) rest₁ hl4 (by omega)
      · rw [parseLoop_none hnone]
        exact .ok _

theorem parseLevel_onlyBad (ts : List Tok) : OnlyBad (parseLevel (parseFuel ts) 0 ts) :=
  (err_aux _).1 (Nat.zero_le _) (Nat.le_add_right _ 5)

/-- the parse at level `lvl` stops in front of `rest`: no operator loop from this level down to the
    atoms continues on it -/
def Stop (lvl : Nat) (rest : List Tok) : Prop := ∀ l, lvl ≤ l → headOp l rest = none

theorem Stop.succ {lvl rest} (h : Stop lvl rest) : Stop (lvl + 1) rest :=
  fun l hl => h l (Nat.le_of_succ_le hl)

theorem stop_op {lvl o} (h : o.level < lvl) {rest} : Stop lvl (.op o :: rest) :=
  fun _ hl => if_neg (Nat.ne_of_lt (Nat.lt_of_lt_of_le h hl))

theorem stop_rpar {lvl rest} : Stop lvl (.rpar :: rest) := fun _ _ => rfl

theorem approx_level {lvl ts y} (h : ∀ f, Approx (parseLevel (f+1) lvl ts) y) :
    ∀ f, Approx (parseLevel f lvl ts) y
  | 0 => .inl parseLevel_zero
  | f+1 => h f

theorem approx_loop_stop {lvl rest} (hs : Stop lvl rest) (l : E) :
    ∀ k, Approx (parseLoop k lvl l rest) (.ok (l, rest))
  | 0 => .inl parseLoop_zero
  | _+1 => .inr (parseLoop_none (hs _ (Nat.le_refl _)))

/-- Completeness, for every fuel: on `pre ++ rest` the parser at level `lvl` returns `(e, rest)`
    unless it runs out of fuel; below level 4 it moreover hands `e` to the operator loop, with some
    fuel `k`. That `∃ k` absorbs the mismatch between the fuels of nested loops, so no statement
    about more fuel preserving a result is needed. -/
theorem complete_aux {lvl pre e} (h : Gram lvl pre e) :
    (∀ rest, Stop lvl rest → ∀ f, Approx (parseLevel f lvl (pre ++ rest)) (.ok (e, rest))) ∧
    (lvl < 4 → ∀ rest, Stop (lvl + 1) rest → ∀ f,
      ∃ k, Approx (parseLevel f lvl (pre ++ rest)) (parseLoop k lvl e rest)) := by
  -- for `lvl < 4` the plain form follows from the loop form
  have plain : ∀ {lvl pre e}, lvl < 4 →
      (∀ rest, Stop (lvl + 1) rest → ∀ f,
        ∃ k, Approx (parseLevel f lvl (pre ++ rest)) (parseLoop k lvl e rest)) →
      ∀ rest, Stop lvl rest → ∀ f, Approx (parseLevel f lvl (pre ++ rest)) (.ok (e, rest)) := by
    intro lvl pre e _ hk rest hs f
    obtain ⟨k, hk⟩ := hk rest hs.succ f
    exact hk.trans (approx_loop_stop hs e k)
  induction h with
  | @up lvl ts e hl _ ih =>
    have hk : ∀ rest, Stop (lvl + 1) rest → ∀ f,
        ∃ k, Approx (parseLevel f lvl (ts ++ rest)) (parseLoop k lvl e rest) := by
      intro rest hs f
      cases f with
      | zero => exact ⟨0, .inl parseLevel_zero⟩
      | succ f =>
        rw [parseLevel_lt hl]
        exact ⟨f, (ih.1 rest hs f).bind _⟩
    exact ⟨plain hl hk, fun _ => hk⟩
  | @bin lvl o ts₁ ts₂ l r hl ho _ _ ih₁ ih₂ =>
    have hk : ∀ rest, Stop (lvl + 1) rest → ∀ f,
        ∃ k, Approx (parseLevel f lvl (ts₁ ++ [.op o] ++ ts₂ ++ rest))
          (parseLoop k lvl (.bin o l r) rest) := by
      intro rest hs f
      rw [List.append_assoc, List.append_assoc, List.singleton_append]
      obtain ⟨k, hk⟩ := ih₁.2 hl (.op o :: (ts₂ ++ rest)) (stop_op (ho ▸ Nat.lt_succ_self _)) f
      cases k with
      | zero => exact ⟨0, hk.trans (.inl parseLoop_zero)⟩
      | succ k =>
        rw [parseLoop_op ho] at hk
        exact ⟨k, hk.trans ((ih₂.1 rest hs k).bind _)⟩
    exact ⟨plain hl hk, fun _ => hk⟩
  | num =>
    exact ⟨fun rest _ => approx_level fun f => .inr parseLevel_num,
      fun h => absurd h (Nat.lt_irrefl 4)⟩
  | label =>
    exact ⟨fun rest _ => approx_level fun f => .inr parseLevel_label,
      fun h => absurd h (Nat.lt_irrefl 4)⟩
  | neg _ ih =>
    refine ⟨fun rest hs => approx_level fun f => ?_, fun h => absurd h (Nat.lt_irrefl 4)⟩
    exact (ih.1 rest hs f).bind _
  | @byteN k ts e _ ih =>
    refine ⟨fun rest hs => approx_level fun f => ?_, fun h => absurd h (Nat.lt_irrefl 4)⟩
    rw [List.append_assoc]
    exact (ih.1 (.rpar :: rest) stop_rpar f).bind (closeK (.byteN k))
  | @paren ts e _ ih =>
    refine ⟨fun rest hs => approx_level fun f => ?_, fun h => absurd h (Nat.lt_irrefl 4)⟩
    rw [List.append_assoc]
    exact (ih.1 (.rpar :: rest) stop_rpar f).bind (closeK id)

theorem parseLevel_complete {ts e} (h : Gram 0 ts e) :
    parseLevel (parseFuel ts) 0 ts = .ok (e, []) := by
  have := (complete_aux h).1 [] (fun _ _ => rfl) (parseFuel ts)  -- nothing follows: `Stop 0 []`
  rw [List.append_nil] at this
  exact this.resolve_left (parseLevel_onlyBad ts).noOof.ne

theorem parseExpr_ok_iff {ts e} :
    parseExpr ts = .ok e ↔ parseLevel (parseFuel ts) 0 ts = .ok (e, []) := by
  unfold parseExpr
  constructor
  · intro h
    split at h
    · next e' heq => cases h; exact heq
    · cases h
    · cases h
  · intro h
    rw [h]

theorem parseExpr_sound {ts e} (h : parseExpr ts = .ok e) : Gram 0 ts e := by
  obtain ⟨pre, hts, g⟩ := parseLevel_sound (Nat.zero_le _) (parseExpr_ok_iff.1 h)
  rw [List.append_nil] at hts
  rw [hts]; exact g

theorem parseExpr_complete {ts e} (h : Gram 0 ts e) : parseExpr ts = .ok e :=
  parseExpr_ok_iff.2 (parseLevel_complete h)

theorem parseExpr_onlyBad (ts : List Tok) : OnlyBad (parseExpr ts) := by
  unfold parseExpr
  split
  · exact .ok _
  · exact .error rfl
  · next e heq => exact .error (parseLevel_onlyBad ts e heq)

theorem binop_level_lt (o : BinOp) : o.level < 4 := by cases o <;> decide

theorem ppAt_gram (e : E) {lvl : Nat} (h : lvl ≤ 4) : Gram lvl (ppAt e lvl) e := by
  induction e generalizing lvl with
  | num n => exact gram_mono h Gram.num
  | label s => exact gram_mono h Gram.label
  | neg e ih => exact gram_mono h (Gram.neg (ih (Nat.le_refl _)))
  | byteN k e ih => exact gram_mono h (Gram.byteN (ih (Nat.zero_le _)))
  | bin o l r ihl ihr =>
    have ho := binop_level_lt o
    have body : Gram o.level (ppAt l o.level ++ [.op o] ++ ppAt r (o.level + 1)) (.bin o l r) :=
      Gram.bin ho rfl (ihl (Nat.le_of_lt ho)) (ihr ho)
    unfold ppAt
    by_cases hlt : o.level < lvl
    · rw [if_pos hlt]
      exact gram_mono h (Gram.paren (gram_mono (Nat.zero_le _) body))
    · rw [if_neg hlt]
      exact gram_mono (Nat.le_of_not_lt hlt) body

end ParseLemmas
end BV
