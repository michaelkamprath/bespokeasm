/-
  C07: the lexer on printed numerals. `lexExpr` applied to a printing `Nat.toDigits b n` of a number, with a
  prefix or suffix the assembler accepts, yields the one token `.num n`. For the suffix `H` this fails on
  exactly the texts `b0…H` / `b1…H`, which the earlier alternative `(?:\%|b)[01]+` of the pattern takes.
-/
import BespokeVerif.Model.Expr
import BespokeVerif.Lemmas.Basics
namespace BV
namespace LexLemmas

theorem digitChar_hex : ∀ d < 16, isHexDigit (Nat.digitChar d) = true ∧ hexVal (Nat.digitChar d) = d := by
  decide +kernel
theorem digitChar_bin : ∀ d < 2, isBinDigit (Nat.digitChar d) = true := by decide +kernel

theorem toDigits_all {b : Nat} {p : Char → Bool} (hb : 1 < b)
    (hp : ∀ d < b, p (Nat.digitChar d) = true) (n : Nat) : ∀ c ∈ Nat.toDigits b n, p c = true := by
  have hb0 : 0 < b := Nat.zero_lt_of_lt hb
  induction n using Nat.strongRecOn with
  | _ n ih =>
    intro c hc
    rw [Nat.toDigits_eq_if hb] at hc
    split at hc
    · next hlt =>
      rw [List.mem_singleton] at hc
      exact hc ▸ hp n hlt
    · next hge =>
      rw [List.mem_append, List.mem_singleton] at hc
      rcases hc with hc | hc
      · exact ih (n / b) (Nat.div_lt_self (Nat.lt_of_lt_of_le hb0 (Nat.le_of_not_lt hge)) hb) c hc
      · exact hc ▸ hp _ (Nat.mod_lt _ hb0)

theorem digitsVal_snoc (b : Nat) (l : List Char) (x : Char) :
    digitsVal b (l ++ [x]) = digitsVal b l * b + hexVal x := by
  simp only [digitsVal, List.foldl_append, List.foldl_cons, List.foldl_nil]

theorem digitsVal_toDigits {b : Nat} (hb : 1 < b) (hb16 : b ≤ 16) (n : Nat) :
    digitsVal b (Nat.toDigits b n) = n := by
  have hb0 : 0 < b := Nat.zero_lt_of_lt hb
  induction n using Nat.strongRecOn with
  | _ n ih =>
    rw [Nat.toDigits_eq_if hb]
    split
    · next hlt =>
      show 0 * b + hexVal (Nat.digitChar n) = n
      rw [Nat.zero_mul, Nat.zero_add]
      exact (digitChar_hex n (Nat.lt_of_lt_of_le hlt hb16)).2
    · next hge =>
      rw [digitsVal_snoc, ih (n / b) (Nat.div_lt_self (Nat.lt_of_lt_of_le hb0 (Nat.le_of_not_lt hge)) hb),
        (digitChar_hex _ (Nat.lt_of_lt_of_le (Nat.mod_lt _ hb0) hb16)).2, Nat.mul_comm]
      exact Nat.div_add_mod n b

theorem lexLoop_tok {c : Char} {rest rest' : List Char} {t : Tok}
    (h : lexStep (c :: rest) = some (.ok t, rest')) (f : Nat) :
    lexLoop (f + 1) (c :: rest) = (lexLoop f rest').map (t :: ·) := by
  rw [lexLoop, h]
  rfl

theorem lexLoop_nil (k : Nat) : lexLoop k [] = .ok [] := by
  cases k <;> rfl

theorem lexExpr_single {cs : List Char} {t : Tok}
    (h : lexStep cs = some (.ok t, [])) : lexExpr cs = .ok [t] := by
  cases cs with
  | nil => cases h
  | cons c rest =>
    rw [lexExpr, List.length_cons, lexLoop_tok h, lexLoop_nil]
    rfl

/-- The four prefixed numeral notations of bespokeasm, `%101`, `b101`, `$ff`, `0xff` (the alternatives
    `(?:\%|b)[01]+` and `(?:\$|0x)[0-9a-fA-F]+` of the pattern): prefix, class of the digits, base. -/
inductive NumPrefix : List Char → (Char → Bool) → Nat → Prop
  | percent : NumPrefix ['%'] isBinDigit 2
  | b : NumPrefix ['b'] isBinDigit 2
  | dollar : NumPrefix ['$'] isHexDigit 16
  | zerox : NumPrefix ['0', 'x'] isHexDigit 16

theorem lexStep_prefixed {pre : List Char} {p : Char → Bool} {b : Nat} (h : NumPrefix pre p b)
    {d : Char} (hd : p d = true) {rest : List Char} :
    lexStep (pre ++ d :: rest) =
      some (.ok (.num (digitsVal b ((d :: rest).takeWhile p))), (d :: rest).dropWhile p) := by
  -- every guard becomes literally `True` or `False`, so `↓reduceIte` never enters a dead branch
  cases h <;>
    simp only [List.cons_append, List.nil_append, lexStep, Char.reduceBEq, Bool.or_self, Bool.or_true,
      Bool.true_or, Bool.false_and, Bool.true_and, Bool.false_eq_true, ↓reduceIte, List.head?_cons,
      Option.map_some, Option.getD_some, hd, List.drop_succ_cons, List.drop_zero, beq_self_eq_true]

theorem NumPrefix.digits {pre : List Char} {p : Char → Bool} {b : Nat} (h : NumPrefix pre p b) :
    1 < b ∧ b ≤ 16 ∧ ∀ d < b, p (Nat.digitChar d) = true := by
  cases h
  · exact ⟨by decide, by decide, digitChar_bin⟩
  · exact ⟨by decide, by decide, digitChar_bin⟩
  · exact ⟨by decide, by decide, fun d hd => (digitChar_hex d hd).1⟩
  · exact ⟨by decide, by decide, fun d hd => (digitChar_hex d hd).1⟩

theorem lex_prefixed {pre : List Char} {p : Char → Bool} {b : Nat} (h : NumPrefix pre p b)
    {ds : List Char} (hne : ds ≠ []) (hall : ∀ c ∈ ds, p c = true) :
    lexExpr (pre ++ ds) = .ok [.num (digitsVal b ds)] := by
  cases ds with
  | nil => exact absurd rfl hne
  | cons d rest =>
    apply lexExpr_single
    rw [lexStep_prefixed h (hall d (List.mem_cons_self ..)), takeWhile_all hall, dropWhile_all hall]

theorem lex_numeral {pre : List Char} {p : Char → Bool} {b : Nat} (h : NumPrefix pre p b) (n : Nat) :
    lexExpr (pre ++ Nat.toDigits b n) = .ok [.num n] := by
  obtain ⟨hb, hb16, hp⟩ := h.digits
  rw [lex_prefixed h Nat.toDigits_ne_nil (toDigits_all hb hp n), digitsVal_toDigits hb hb16]

theorem head?_bne_of_class {p : Char → Bool} {l : List Char} {x : Char} (h : ∀ c ∈ l, p c = true)
    (hx : p x = false) : (l.head? == some x) = false := by
  cases l with
  | nil => rfl
  | cons d r => exact (Option.some_beq_some ..).trans (beq_false_of_class (h d (List.mem_cons_self ..)) hx)

/-- `[0-9a-fA-F]+H`: a run of hex digits followed by `H`, unless it starts `b0`/`b1`, which
    `(?:\%|b)[01]+` takes first -/
theorem lexStep_hexH {ds : List Char} (hne : ds ≠ []) (hall : ∀ c ∈ ds, isHexDigit c = true)
    (hb : ∀ d r, ds = 'b' :: d :: r → isBinDigit d = false) :
    lexStep (ds ++ ['H']) = some (.ok (.num (digitsVal 16 ds)), []) := by
  cases ds with
  | nil => exact absurd rfl hne
  | cons c rest =>
    have hc := hall c (List.mem_cons_self ..)
    -- the character after `c` is a hex digit or `H`: not `x`, and not `0`/`1` when `c` is `b`
    have hnext : ∃ x, (rest ++ ['H']).head? = some x ∧ (x == 'x') = false ∧
        ((c == 'b') && isBinDigit x) = false := by
      cases rest with
      | nil => exact ⟨'H', rfl, rfl, Bool.and_false _⟩
      | cons d r =>
        refine ⟨d, rfl, beq_false_of_class (hall d (List.mem_cons_of_mem _ (List.mem_cons_self ..))) rfl, ?_⟩
        cases hcb : c == 'b' with
        | false => rfl
        | true =>
          rw [eq_of_beq hcb] at hb
          exact hb d r rfl
    obtain ⟨x, hx, hxx, hxb⟩ := hnext
    have hpct : (c == '%') = false := beq_false_of_class hc rfl
    have hdol : (c == '$') = false := beq_false_of_class hc rfl
    have hall' : ∀ a ∈ c :: rest, isHexDigit a = true := hall
    have htake : (c :: (rest ++ ['H'])).takeWhile isHexDigit = c :: rest :=
      (List.takeWhile_append_of_pos (l₂ := ['H']) hall').trans (List.append_nil _)
    have hdrop : (c :: (rest ++ ['H'])).dropWhile isHexDigit = ['H'] :=
      List.dropWhile_append_of_pos (l₂ := ['H']) hall'
    simp only [List.cons_append, lexStep, hx, hpct, hdol, hxb, hxx, hc, htake, hdrop,
      Bool.false_or, Bool.false_and, Bool.and_false, Option.map_some, Option.getD_some,
      Option.some_beq_some, Bool.false_eq_true, ↓reduceIte,
      List.head?_cons, List.drop_succ_cons, List.drop_zero, List.head?_nil, Option.map_none,
      Option.getD_none, Bool.not_false, beq_self_eq_true, Bool.and_self]

theorem isDigit_imp_hex {c : Char} (h : c.isDigit = true) : isHexDigit c = true := by
  rw [isHexDigit, h]
  rfl

/-- `\d+`: a run of decimal digits standing alone -/
theorem lexStep_dec {ds : List Char} (hne : ds ≠ []) (hall : ∀ c ∈ ds, c.isDigit = true) :
    lexStep ds = some (.ok (.num (digitsVal 10 ds)), []) := by
  cases ds with
  | nil => exact absurd rfl hne
  | cons c rest =>
    have hc := hall c (List.mem_cons_self ..)
    have hhex : ∀ a ∈ c :: rest, isHexDigit a = true := fun a ha => isDigit_imp_hex (hall a ha)
    simp only [lexStep, beq_false_of_class hc (rfl : Char.isDigit '%' = false),
      beq_false_of_class hc (rfl : Char.isDigit 'b' = false),
      beq_false_of_class hc (rfl : Char.isDigit '$' = false),
      head?_bne_of_class (fun a ha => hall a (List.mem_cons_of_mem _ ha)) (rfl : Char.isDigit 'x' = false),
      dropWhile_all hhex, takeWhile_all hall, dropWhile_all hall, hc,
      Bool.or_self, Bool.false_and, Bool.and_false, List.head?_nil, Option.none_beq_some,
      Bool.false_eq_true, ↓reduceIte]

theorem lex_decimal (n : Nat) : lexExpr (Nat.toDigits 10 n) = .ok [.num n] := by
  rw [lexExpr_single (lexStep_dec Nat.toDigits_ne_nil (fun _ => Nat.isDigit_of_mem_toDigits (by decide) (by decide))),
    digitsVal_toDigits (by decide) (by decide)]

theorem lex_hex_H_partial (n : Nat)
    (h : ∀ d ds, Nat.toDigits 16 n = 'b' :: d :: ds → isBinDigit d = false) :
    lexExpr (Nat.toDigits 16 n ++ ['H']) = .ok [.num n] := by
  rw [lexExpr_single (lexStep_hexH Nat.toDigits_ne_nil
      (toDigits_all (by decide) (fun d hd => (digitChar_hex d hd).1) n) h),
    digitsVal_toDigits (by decide) (by decide)]

/-- `'.'`: a character literal, whatever follows it -/
theorem lexStep_char (c : Char) (rest : List Char) :
    lexStep ('\'' :: c :: '\'' :: rest) = some (.ok (.num c.toNat), rest) := by
  -- every earlier alternative fails on the first character alone, so the definition computes
  -- (the tactic: the term `rfl` is elaborated at twice the cost)
  rfl

/-- without the side condition the statement is false: `0xb1 = 177` prints as `b1`, and `b1H` lexes as the
    binary numeral `b1` followed by the label `H`. -/
theorem lex_hex_H_counterexample :
    lexExpr (Nat.toDigits 16 177 ++ ['H']) = .ok [.num 1, .label "H"] := by decide +kernel

theorem lex_hex_H_false : ¬ ∀ n : Nat, lexExpr (Nat.toDigits 16 n ++ ['H']) = .ok [.num n] := by
  intro h
  have := h 177
  rw [lex_hex_H_counterexample] at this
  cases this

theorem lexLoop_ok_nil {k : Nat} {cs : List Char} (h : lexLoop k cs = .ok []) :
    ∀ c ∈ cs, isSpaceChar c = true := by
  induction cs generalizing k with
  | nil => exact fun _ hc => nomatch hc
  | cons c rest ih =>
    cases k with
    | zero => cases (show Except.error Err.outOfFuel = _ from h)
    | succ k =>
      rw [lexLoop] at h
      split at h
      · obtain ⟨ts, -, h⟩ := bind_eq_ok h
        cases h
      · cases h
      · split at h
        · rename_i hsp
          exact List.forall_mem_cons.mpr ⟨hsp, ih h⟩
        · cases h

/-- on the shape `b[01]…H` the binary alternative fires, and more text follows the first token -/
theorem lex_hex_H_bad {d : Char} {ds : List Char} (hd : isBinDigit d = true) {t : Tok} :
    lexExpr ('b' :: d :: ds ++ ['H']) ≠ .ok [t] := by
  intro h
  rw [lexExpr, List.cons_append, List.length_cons,
    lexLoop_tok (c := 'b') (rest := d :: ds ++ ['H']) (lexStep_prefixed .b hd)] at h
  obtain ⟨ts, hr, h⟩ := bind_eq_ok h
  cases ts with
  | nil =>
    -- whatever part of `d :: ds` the numeral takes, the `H` is left, and it is no blank
    have hH : 'H' ∈ (d :: ds ++ ['H']).dropWhile isBinDigit := by
      rw [List.dropWhile_append]
      split
      · exact List.mem_singleton_self _
      · exact List.mem_append_right _ (List.mem_singleton_self _)
    cases lexLoop_ok_nil hr 'H' hH
  | cons _ _ => cases h

/-- the printed `n` is the printed `n / b ^ k` followed by `k` more digits, unless `n` has at most `k` digits -/
theorem toDigits_cut {b : Nat} (hb : 1 < b) (k n : Nat) :
    (n / b ^ k = 0 ∧ (Nat.toDigits b n).length ≤ k) ∨
      ∃ suf, suf.length = k ∧ Nat.toDigits b n = Nat.toDigits b (n / b ^ k) ++ suf := by
  induction k generalizing n with
  | zero => exact .inr ⟨[], rfl, by rw [Nat.pow_zero, Nat.div_one, List.append_nil]⟩
  | succ k ih =>
    have hq : n / b ^ (k + 1) = n / b / b ^ k := by
      rw [Nat.pow_succ, Nat.div_div_eq_div_mul, Nat.mul_comm]
    rw [hq, Nat.toDigits_eq_if hb]
    split
    · rename_i hlt
      exact .inl ⟨by rw [Nat.div_eq_of_lt hlt, Nat.zero_div], Nat.succ_le_succ (Nat.zero_le k)⟩
    · rcases ih (n / b) with ⟨h0, hlen⟩ | ⟨suf, hlen, hs⟩
      · exact .inl ⟨h0, by rw [List.length_append]; exact Nat.succ_le_succ hlen⟩
      · exact .inr ⟨suf ++ [Nat.digitChar (n % b)], by rw [List.length_append, hlen]; rfl,
          by rw [hs, List.append_assoc]⟩

/-- the side condition of `lex_hex_H_partial` in arithmetic: no leading part of `n` (in base 16) is
    `0xb0` or `0xb1` -/
theorem hexH_ok_iff (n : Nat) :
    (∀ d ds, Nat.toDigits 16 n = 'b' :: d :: ds → isBinDigit d = false) ↔
      ∀ k, n / 16 ^ k ≠ 176 ∧ n / 16 ^ k ≠ 177 := by
  constructor
  · intro h k
    -- a quotient `0xb0`/`0xb1` would print as a prefix `b0`/`b1`
    have key : ∀ d, isBinDigit d = true → Nat.toDigits 16 (n / 16 ^ k) ≠ ['b', d] := by
      intro d hd hq
      rcases toDigits_cut (b := 16) (by decide) k n with ⟨h0, -⟩ | ⟨suf, -, hs⟩
      · rw [h0] at hq
        cases hq
      · rw [hq] at hs
        rw [h d suf hs] at hd
        cases hd
    exact ⟨fun hk => key '0' rfl (by rw [hk]; rfl), fun hk => key '1' rfl (by rw [hk]; rfl)⟩
  · intro h d ds hds
    -- the prefix `b`,`d` is the printed quotient, whose value is `0xb0 + d`
    rcases toDigits_cut (b := 16) (by decide) ds.length n with ⟨-, hlen⟩ | ⟨suf, hlen, hs⟩
    · rw [hds] at hlen
      exact absurd (Nat.le_of_succ_le hlen) (Nat.not_succ_le_self _)
    · rw [hds] at hs
      have hp : ['b', d] = Nat.toDigits 16 (n / 16 ^ ds.length) :=
        (List.append_inj' (s₁ := ['b', d]) hs hlen.symm).1
      have hv := digitsVal_toDigits (b := 16) (by decide) (by decide) (n / 16 ^ ds.length)
      rw [← hp] at hv
      cases hd : isBinDigit d with
      | false => rfl
      | true =>
        rw [isBinDigit, Bool.or_eq_true, beq_iff_eq, beq_iff_eq] at hd
        rcases hd with rfl | rfl
        · exact absurd hv.symm (h ds.length).1
        · exact absurd hv.symm (h ds.length).2

end LexLemmas
end BV
