/-
  C15 (determinism): the selection functions see the register collection only
  through `isRegName regs`, and that test does not depend on the order of the collection.
-/
import BespokeVerif.Model.Select
import BespokeVerif.Lemmas.Basics
namespace BV

theorem isRegName_of_perm {regs regs' : List String} (h : regs.Perm regs') :
    isRegName regs' = isRegName regs := by
  funext s
  unfold isRegName
  rw [Bool.eq_iff_iff, List.any_eq_true, List.any_eq_true]
  exact exists_congr fun r => and_congr_left fun _ => h.mem_iff.symm

/-! Each link is an equation between functions, so that it rewrites under the binders of the
    large matches. -/

variable {regs regs' : List String} (h : isRegName regs' = isRegName regs)
include h

theorem hasReg_congr : hasReg regs' = hasReg regs := by
  funext e
  unfold hasReg
  rw [h]

theorem acceptIdx_congr : acceptIdx regs' = acceptIdx regs := by
  funext gz id c e
  unfold acceptIdx
  rw [hasReg_congr h]

theorem firstIdx_congr : firstIdx regs' = firstIdx regs := by
  funext gz e l
  induction l with
  | nil => rfl
  | cons x rest ih => simp only [firstIdx, acceptIdx_congr h, ih]

theorem acceptIndReg_congr : acceptIndReg regs' = acceptIndReg regs := by
  funext id r code off e
  unfold acceptIndReg
  rw [hasReg_congr h]

theorem accepts_congr : accepts regs' = accepts regs := by
  funext gz id c f
  unfold accepts
  rw [hasReg_congr h, firstIdx_congr h, acceptIndReg_congr h]

theorem firstAccept_congr : firstAccept regs' = firstAccept regs := by
  funext gz f l
  induction l with
  | nil => rfl
  | cons x rest ih => simp only [firstAccept, accepts_congr h, ih]

theorem matchSet_congr : matchSet regs' = matchSet regs := by
  funext gz set f
  unfold matchSet
  rw [firstAccept_congr h]

theorem matchSets_congr : matchSets regs' = matchSets regs := by
  funext gz ss fs
  induction ss generalizing fs with
  | nil => cases fs <;> rfl
  | cons s ss ih =>
    cases fs with
    | nil => rfl
    | cons f fs => simp only [matchSets, matchSet_congr h, ih]

theorem matchSpecificOps_congr : matchSpecificOps regs' = matchSpecificOps regs := by
  funext gz fs ops i nulls acc
  induction ops generalizing i nulls acc with
  | nil => rfl
  | cons x rest ih =>
    obtain ⟨id, c⟩ := x
    -- two cases as in the definition, instead of one per constructor of `OperandCfg`
    by_cases hc : ∃ code, c = .empty code
    · obtain ⟨code, rfl⟩ := hc
      simp only [matchSpecificOps, ih]
    · have hc' : ∀ code, c = .empty code → False := fun code e => hc ⟨code, e⟩
      rw [matchSpecificOps.eq_3 _ _ _ _ _ _ _ _ _ hc', matchSpecificOps.eq_3 _ _ _ _ _ _ _ _ _ hc',
        accepts_congr h]
      simp only [ih]

theorem matchSpecific_congr : matchSpecific regs' = matchSpecific regs := by
  funext gz count l fs
  induction l with
  | nil => rfl
  | cons s rest ih => simp only [matchSpecific, matchSpecificOps_congr h, ih]

theorem matchVariant_congr : matchVariant regs' = matchVariant regs := by
  funext gz v fs
  unfold matchVariant
  rw [matchSpecific_congr h, matchSets_congr h]

theorem selectVariant_congr : selectVariant regs' = selectVariant regs := by
  funext gz vs fs i
  induction vs generalizing i with
  | nil => rfl
  | cons v rest ih => simp only [selectVariant, matchVariant_congr h, ih]

end BV
