/-
  The text front end never fails for lack of fuel: `parseStmts` is given the length of the line + 1 and
  every recursive call is on a strictly shorter text (the statement step `stmtStep` never makes up
  `outOfFuel`, it passes on what its continuation says on a shorter text).
-/
import BespokeVerif.Lemmas.Parse
import BespokeVerif.Lemmas.LexFuel
import BespokeVerif.Lemmas.ExprParse
namespace BV

theorem parseExprText_noOof {t : List Char} : NoOof (parseExprText t) := by
  unfold parseExprText
  exact OnlyBad.noOof ((lexExpr_onlyBad t).bind fun ts _ => ParseLemmas.parseExpr_onlyBad ts)

theorem ptrimL_len (l : List Char) : (ptrimL l).length ≤ l.length := (List.dropWhile_suffix _).length_le
theorem ptrim_len (l : List Char) : (ptrim l).length ≤ l.length :=
  Nat.le_trans (ptrimR_prefix (ptrimL l)).length_le (ptrimL_len l)

theorem takeName_len (t : List Char) : (takeName t).1.length + (takeName t).2.length = t.length := by
  unfold takeName
  rw [← List.length_append, List.takeWhile_append_dropWhile]

theorem takeQuotedBody_len {q : Char} {e : Bool} {l b r : List Char} (h : takeQuotedBody q e l = some (b, r)) :
    r.length < l.length := by
  -- an arm that goes on behind `c`: the rest returned is the rest of the recursive call
  have step : ∀ {c : Char} {l : List Char} {x : Option (List Char × List Char)} {b : List Char},
      (∀ {b}, x = some (b, r) → r.length < l.length) →
      x.map (fun (b, r) => (c :: b, r)) = some (b, r) → r.length < (c :: l).length := by
    intro c l x b ih h
    obtain ⟨⟨b', r'⟩, hx, hbr⟩ := Option.map_eq_some_iff.mp h
    cases hbr
    exact Nat.lt_succ_of_lt (ih hx)
  fun_induction takeQuotedBody q e l generalizing b with
  | case1 => cases h
  | case2 c rest ih => exact step ih h
  | case3 esc c rest _ _ ih => exact step ih h
  | case4 esc c rest _ _ _ => cases h; exact Nat.lt_succ_self _
  | case5 esc c rest _ _ _ ih => exact step ih h

theorem cutAtLabelDef_len (acc l : List Char) : (cutAtLabelDef acc l).2.length ≤ l.length := by
  fun_induction cutAtLabelDef acc l with
  | case1 => exact Nat.le_refl _
  | case2 => exact Nat.le_succ _
  | case3 _ _ _ _ ih => exact Nat.le_succ_of_le ih

theorem cutAtMnemonic_len (cfg : PCfg) (m : QMode) (s : Bool) (l : List Char) : (cutAtMnemonic cfg m s l).2.length ≤ l.length := by
  fun_induction cutAtMnemonic cfg m s l with
  | case1 => exact Nat.le_refl _
  | case2 _ _ _ _ _ _ _ _ h ih => rw [h] at ih; exact Nat.le_succ_of_le ih
  | case3 _ _ _ _ _ _ h ih => rw [h] at ih; exact Nat.le_succ_of_le ih
  | case4 => exact Nat.le_refl _
  | case5 _ _ _ _ _ _ _ h ih => rw [h] at ih; exact Nat.le_succ_of_le ih

/-- what the statement step needs of the parse of a data directive's argument `rest`: no `outOfFuel`,
    and the text left over is no longer than `rest` -/
def DataOk (rest : List Char) (x : Except Err (Stmt × List Char)) : Prop :=
  NoOof x ∧ ∀ s after, x = .ok (s, after) → after.length ≤ rest.length

theorem DataOk.err {rest : List Char} {e : Err} (h : e ≠ .outOfFuel) : DataOk rest (.error e) :=
  ⟨.error h, fun _ _ h => by cases h⟩

theorem DataOk.ok {rest : List Char} {s : Stmt} {after : List Char} (h : after.length ≤ rest.length) :
    DataOk rest (.ok (s, after)) :=
  ⟨.ok _, fun _ _ e => by cases e; exact h⟩

theorem DataOk.ite {rest : List Char} {c : Prop} [Decidable c] {x y : Except Err (Stmt × List Char)}
    (hx : c → DataOk rest x) (hy : ¬c → DataOk rest y) : DataOk rest (if c then x else y) :=
  iteInduction hx hy

/-- a value list takes the whole text -/
theorem valueList_ok (rest : List Char) (term : Option Nat) (w : Nat) (r : List Char) :
    DataOk rest (if term.isSome then .error .badDirective else do
      let vals ← ((splitCommas (ptrim r)).filter fun v => !(ptrim v).isEmpty).mapM fun v => parseExprText (ptrim v)
      .ok (.data w vals, [])) := by
  refine .ite (fun _ => .err (by decide)) fun _ => ⟨(Errs.mapM fun _ _ => parseExprText_noOof).bind fun _ _ => .ok _, ?_⟩
  intro s after h
  obtain ⟨vals, _, h⟩ := bind_eq_ok h
  cases h
  exact Nat.zero_le _

theorem parseData_ok (cfg : PCfg) (w : Nat) (term : Option Nat) (rest : List Char) :
    DataOk rest (parseData cfg w term rest) := by
  unfold parseData
  have hl := ptrimL_len rest
  generalize ptrimL rest = r at hl
  obtain _ | ⟨q, body⟩ := r
  · exact .err (by decide)
  refine .ite (fun _ => ?_) fun _ => valueList_ok ..
  -- a quoted text: a string, or the first value of a list
  dsimp only
  cases htq : takeQuotedBody q false body with
  | none => exact valueList_ok ..
  | some p =>
    obtain ⟨b, after⟩ := p
    have hlen : after.length ≤ rest.length :=
      Nat.le_trans (Nat.le_of_lt (takeQuotedBody_len htq)) (Nat.le_trans (Nat.le_succ _) hl)
    dsimp only
    cases (ptrimL after).head? with
    | none => exact .ok hlen
    | some c => exact .ite (fun _ => valueList_ok ..) fun _ => .ok hlen

theorem noOof_cons {k : Except Err (List Stmt)} {s : Stmt} (h : NoOof k) : NoOof (k >>= fun m => Except.ok (s :: m)) :=
  h.bind fun _ _ => .ok _

theorem noOof_expr {β : Type} {x : List Char} {g : E → Except Err β} (hg : ∀ e, NoOof (g e)) :
    NoOof (parseExprText x >>= g) :=
  parseExprText_noOof.bind fun e _ => hg e

/-- every directive hands `k` a text that is no longer than its own -/
theorem directive_noOof {cfg : PCfg} {k : List Char → Except Err (List Stmt)} {name : String} {rest : List Char}
    (hk : ∀ x, x.length ≤ rest.length → NoOof (k x)) : NoOof (directive cfg k name rest) := by
  have hcut : NoOof (k (cutAtLabelDef [] rest).2) := hk _ (cutAtLabelDef_len [] rest)
  have dataK : ∀ {wd term},
      NoOof (parseData cfg wd term rest >>= fun x => k x.snd >>= fun m => Except.ok (x.fst :: m)) :=
    @fun wd term => (parseData_ok cfg wd term rest).1.bind fun x hx =>
      noOof_cons (hk _ ((parseData_ok cfg wd term rest).2 x.1 x.2 hx))
  rw [directive.eq_def]
  generalize cutAtLabelDef [] rest = oa at hcut ⊢
  obtain ⟨own, after⟩ := oa
  split
  · -- .org
    refine Errs.bind ?_ fun _ _ => noOof_cons hcut
    split <;> exact noOof_expr fun _ => .ok _
  · -- .memzone
    exact noOof_cons (hk _ (by have := ptrimL_len rest; simp only [List.length_drop]; omega))
  · -- .fill
    dsimp only
    split
    · exact noOof_expr fun _ => noOof_expr fun _ => noOof_cons hcut
    · exact .error (by decide)
  · exact noOof_expr fun _ => noOof_cons hcut
  · exact noOof_expr fun _ => noOof_cons hcut
  · -- .align
    exact .ite (fun _ => .ok _) fun _ => .ite (fun _ => noOof_expr fun _ => .ok _)
      fun _ => noOof_expr fun _ => noOof_cons hcut
  · exact dataK
  · exact dataK
  · exact dataK
  · exact dataK
  · exact dataK
  · exact dataK
  · exact .error (by decide)

/-- one statement: `k` is handed a strictly shorter text. `hmn` spares the instruction arm the case of an empty name -/
theorem stmtStep_noOof {cfg : PCfg} (hmn : cfg.mnemonics.contains "" = false) {k : List Char → Except Err (List Stmt)}
    {t : List Char} (hk : ∀ x, x.length < t.length → NoOof (k x)) : NoOof (stmtStep cfg k t) := by
  rw [stmtStep.eq_def]
  obtain _ | ⟨c0, tl⟩ := t
  · exact .ok _
  have hn := takeName_len (c0 :: tl)
  have hw0 : isNameChar c0 = true → (takeName (c0 :: tl)).1 ≠ [] := fun h => by
    simp [takeName, List.takeWhile_cons_of_pos h]
  generalize takeName (c0 :: tl) = wr at hn hw0 ⊢
  obtain ⟨w, rest⟩ := wr
  dsimp only at hn hw0 ⊢
  -- the name in front is not empty wherever `k` is handed `rest` or a part of it
  have hlt : w ≠ [] → ∀ x, x.length ≤ rest.length → NoOof (k x) := fun hw x hx =>
    hk x (by have := List.length_pos_iff.mpr hw; omega)
  -- the chain of `if`s of `stmtStep`; the four `?_` are the places where `k` is called
  refine .ite (fun hc => ?_) fun _ => .ite (fun _ => noOof_expr fun _ => .ok _) fun _ =>
    .ite (fun _ => noOof_expr fun _ => .ok _) fun _ => .ite (fun hdot => ?_) fun _ =>
    .ite (fun _ => ?_) fun _ => .ite (fun hm => ?_) fun _ => .error (by decide)
  · -- label
    have hw : w ≠ [] := by rintro rfl; cases hc
    exact noOof_cons (hlt hw _ (by rw [List.length_tail]; exact Nat.sub_le ..))
  · -- directive
    have hc0 : c0 = '.' := by simpa using hdot
    exact directive_noOof (hlt (hw0 (by rw [hc0]; decide)))
  · -- embedded string
    split
    · rename_i b after htq
      exact noOof_cons (hk _ (Nat.lt_succ_of_lt (takeQuotedBody_len htq)))
    · exact .error (by decide)
  · -- instruction: the empty word is no mnemonic
    have hwne : w ≠ [] := by
      rintro rfl
      rw [show lowerS [] = "" by rw [lowerS_eq]; rfl, hmn] at hm; cases hm
    have hcm : ∀ s, NoOof (k (cutAtMnemonic cfg none false rest).2 >>= fun m => Except.ok (s :: m)) := fun s =>
      noOof_cons (hlt hwne _ (cutAtMnemonic_len cfg none false rest))
    split
    · exact (Errs.ok _).bind fun _ _ => hcm _
    · exact (Errs.error (by decide)).bind fun _ _ => hcm _

theorem parseStmts_noOof {cfg : PCfg} (hmn : cfg.mnemonics.contains "" = false) {f : Nat} {t : List Char}
    (h : t.length < f) : NoOof (parseStmts cfg f t) := by
  induction f generalizing t with
  | zero => omega
  | succ f ih =>
    rw [parseStmts_succ]
    exact stmtStep_noOof hmn fun x hx => ih (by have := ptrim_len t; omega)

theorem applyBin_noOof {op : BinOp} {l r : Rat} : NoOof (applyBin op l r) := by
  unfold applyBin
  cases op with
  | add | sub | mul | band | bor | bxor => exact .ok _
  | div | mod | shl | shr => exact .ite (fun _ => .error (by decide)) fun _ => .ok _

theorem evalE_noOof {env : String → Option Int} {e : E} : NoOof (evalE env e) := by
  induction e with
  | num n => exact .ok _
  | label s =>
    rw [evalE]
    split
    · exact .ok _
    · exact .error (by decide)
  | neg e ih => rw [evalE]; exact ih.bind fun _ _ => .ok _
  | byteN k e ih => rw [evalE]; exact ih.bind fun _ _ => .ok _
  | bin op l r ihl ihr =>
    rw [evalE]
    exact ihl.bind fun _ _ => ihr.bind fun _ _ => applyBin_noOof

theorem parseIntText_noOof {t : List Char} : NoOof (parseIntText t) := by
  unfold parseIntText valueE
  exact parseExprText_noOof.bind fun _ _ => evalE_noOof.bind fun _ _ => .ok _

theorem condSide_noOof {t : List Char} : NoOof (condSide t) := by
  unfold condSide
  dsimp only
  split
  · split
    · split
      · exact .ok _
      · exact .error (by decide)
    · exact parseExprText_noOof
  · exact .error (by decide)

theorem parseCond_noOof {t : List Char} : NoOof (parseCond t) := by
  unfold parseCond
  split
  · exact condSide_noOof.bind fun _ _ => condSide_noOof.bind fun _ _ => .ok _
  · exact condSide_noOof.bind fun _ _ => .ok _

theorem parsePreproc_noOof {cfg : PCfg} {t : List Char} : NoOof (parsePreproc cfg t) := by
  unfold parsePreproc
  dsimp only
  split
  · exact .ok _                   -- #mute
  · exact .ok _                   -- #unmute
  · exact .ok _                   -- #emit
  · exact .ok _                   -- #else
  · exact .ok _                   -- #endif
  · exact .ok _                   -- #ifdef
  · exact .ok _                   -- #ifndef
  · exact parseCond_noOof.bind fun _ _ => .ok _     -- #if
  · exact parseCond_noOof.bind fun _ _ => .ok _     -- #elif
  · -- #define
    refine .ite (fun _ => .error (by decide)) fun _ => .ite (fun _ => .ok _) fun _ => ?_
    split <;> exact .ok _
  · -- #include
    split
    · refine .ite (fun _ => ?_) fun _ => .error (by decide)
      split
      · split <;> exact .ok _
      · exact .error (by decide)
    · exact .error (by decide)
  · -- #create_memzone
    split
    · exact parseIntText_noOof.bind fun _ _ => parseIntText_noOof.bind fun _ _ => .ok _
    · exact .error (by decide)
  · exact .error (by decide)

/-- the fuel handed to `parseStmts` is the length of the stripped line + 1 -/
theorem parseLine_noOof {cfg : PCfg} (hmn : cfg.mnemonics.contains "" = false) {line : List Char} :
    NoOof (parseLine cfg line) := by
  unfold parseLine
  dsimp only
  split
  · exact .ok _
  · exact parsePreproc_noOof
  · exact parseStmts_noOof hmn (by omega)

end BV
