/-
  Operand value constraints (C12) and their composition with the packer (C01): `ValSrc.resolve` decides
  `Satisfies`; an instruction is encoded iff every field of every operand satisfies its constraint and fits.
-/
import BespokeVerif.Model.Instr
import BespokeVerif.Lemmas.Bits
namespace BV

theorem lookupInt_none_iff {d : List (Int × Int)} {v : Int} :
    lookupInt d v = none ↔ v ∉ d.map Prod.fst := by
  induction d with
  | nil => simp [lookupInt]
  | cons p d ih =>
    rw [lookupInt, List.map_cons, List.mem_cons, not_or, ← ih]
    by_cases hk : p.1 = v
    · simp [hk]
    · simp [hk, Ne.symm hk]

theorem lookupInt_isSome_iff {d : List (Int × Int)} {v : Int} :
    (∃ x, lookupInt d v = some x) ↔ v ∈ d.map Prod.fst := by
  rw [← Option.ne_none_iff_exists', ne_eq, lookupInt_none_iff, Classical.not_not]

theorem checkMax_eq (mx : Option Int) (v : Int) : checkMax mx v = decide (leOpt v mx) := by
  cases mx <;> rfl

theorem checkMin_eq (mn : Option Int) (v : Int) : checkMin mn v = decide (geOpt v mn) := by
  cases mn <;> rfl

theorem relBase_sub (t addr size : Int) (fromEnd : Bool) :
    (if fromEnd = true then t - addr - (size - 1) else t - addr) = t - relBase addr size fromEnd := by
  cases fromEnd <;> simp [relBase] <;> omega

/-- A test `if P then .ok a else .error e` absorbs what is around it: a rejecting guard before it, a test it is
    nested in, a continuation after it. A chain of guards thus becomes one test of a conjunction.
    (`simp` would turn `guard_not` for ever on an `x` that is itself an error.) -/
theorem guard_not {ε α} (c : Prop) [Decidable c] (e : ε) (x : Except ε α) :
    (if c then Except.error e else x) = if ¬ c then x else .error e := by
  split <;> simp [*]

theorem guard_and {ε α} (P Q : Prop) [Decidable P] [Decidable Q] (e : ε) (a : α) :
    (if P then if Q then Except.ok a else .error e else .error e) = if P ∧ Q then .ok a else .error e := by
  by_cases hP : P <;> simp [hP]

theorem guard_bind {ε α β} (P : Prop) [Decidable P] (e : ε) (a : α) (f : α → Except ε β) :
    (if P then Except.ok a else .error e) >>= f = if P then f a else .error e := by
  split <;> rfl

/-- `Satisfies` is not unfolded under the `if`: its `Decidable` instance is built by tactics. -/
theorem ValSrc.resolve_eq (s : ValSrc) (addr size : Int) (w : Nat) :
    s.resolve addr size w =
      if s.Satisfies addr size w then .ok (s.emitted addr size w) else .error .constraint := by
  have fin {c b : Prop} [Decidable c] [Decidable b] (h : c ↔ b) (a : Int) :
      (if c then Except.ok a else Except.error Err.constraint) = if b then .ok a else .error .constraint :=
    ite_congr (propext h) (fun _ => rfl) (fun _ => rfl)
  cases s with
  | plain x => exact (if_pos trivial).symm
  | enum x d =>
    simp only [ValSrc.resolve, ValSrc.emitted]
    cases h : lookupInt d x with
    | none => exact (if_neg (lookupInt_none_iff.mp h)).symm
    | some y => exact (if_pos (lookupInt_isSome_iff.mp ⟨y, h⟩)).symm
  | ranged x mn mx =>
    simp only [ValSrc.resolve, ValSrc.emitted, checkMax_eq, checkMin_eq,
      Bool.not_eq_true', decide_eq_false_iff_not, guard_not, guard_and]
    exact fin (by simp only [ValSrc.Satisfies, Decidable.not_not]) _
  | rel t fe mn mx zs ze =>
    simp only [ValSrc.resolve, ValSrc.emitted, relBase_sub, checkMax_eq, checkMin_eq,
      Bool.not_eq_true', decide_eq_false_iff_not, guard_not, guard_and]
    exact fin (by simp only [ValSrc.Satisfies, Decidable.not_not, Int.not_lt, gt_iff_lt]
                  exact and_left_comm) _
  | _ =>
    simp only [ValSrc.resolve, ValSrc.emitted, guard_not, guard_and]
    exact fin (by simp only [ValSrc.Satisfies, Int.not_lt, gt_iff_lt, Decidable.not_not, ne_eq, and_left_comm,
      and_comm]) _

/-- An operand contributes an optional code and an optional argument; what is asked of an operand is asked of
    both, so the two are treated as one list. -/
def OpParts.fields (o : OpParts) : List Field := (o.code.map Prod.fst).toList ++ o.arg.toList
def SrcOp.fields (o : SrcOp) : List SrcField := (o.code.map Prod.fst).toList ++ o.arg.toList

theorem OpParts.mem_fields (o : OpParts) (f : Field) :
    f ∈ o.fields ↔ (∃ p, o.code = some (f, p)) ∨ o.arg = some f := by
  simp only [OpParts.fields, List.mem_append, Option.mem_toList, Option.map_eq_some_iff, Prod.exists,
    exists_and_right, exists_eq_right]

theorem SrcOp.forall_fields (o : SrcOp) (P : SrcField → Prop) :
    (∀ f ∈ o.fields, P f) ↔ (∀ f p, o.code = some (f, p) → P f) ∧ (∀ f, o.arg = some f → P f) := by
  simp only [SrcOp.fields, List.forall_mem_append, Option.mem_toList, Option.map_eq_some_iff, Prod.exists,
    exists_and_right, exists_eq_right, forall_exists_index]

theorem SrcOp.emittedParts_fields (o : SrcOp) (addr size : Int) :
    (o.emittedParts addr size).fields = o.fields.map (·.emittedField addr size) := by
  rcases o with ⟨_ | ⟨c, p⟩, _ | a⟩ <;> rfl

/-- the constraint part of `SrcOp.Good` -/
def SrcOp.Sat (o : SrcOp) (addr size : Int) : Prop := ∀ f ∈ o.fields, f.src.Satisfies addr size f.size
instance (o : SrcOp) (addr size : Int) : Decidable (o.Sat addr size) := List.decidableBAll _ _

theorem SrcOp.good_iff (o : SrcOp) (addr size : Int) :
    o.Good addr size ↔ ∀ f ∈ o.fields, f.Good addr size := by
  rcases o with ⟨_ | ⟨c, p⟩, _ | a⟩ <;> simp [SrcOp.Good, SrcOp.fields]

theorem SrcField.resolveField_eq (f : SrcField) (addr size : Int) :
    f.resolveField addr size =
      if f.src.Satisfies addr size f.size then .ok (f.emittedField addr size) else .error .constraint := by
  rw [SrcField.resolveField, ValSrc.resolve_eq, guard_bind]
  rfl

theorem SrcOp.resolve_eq (o : SrcOp) (addr size : Int) :
    o.resolve addr size = if o.Sat addr size then .ok (o.emittedParts addr size) else .error .constraint := by
  rcases o with ⟨_ | ⟨c, p⟩, _ | a⟩ <;>
    simp only [SrcOp.resolve, SrcField.resolveField_eq, guard_bind, pure_bind, guard_and] <;>
    simp [SrcOp.Sat, SrcOp.fields, SrcOp.emittedParts]

theorem resolveOps_eq (addr size : Int) (ops : List SrcOp) :
    resolveOps addr size ops =
      if ∀ o ∈ ops, o.Sat addr size then .ok (ops.map fun o => o.emittedParts addr size)
      else .error .constraint := by
  induction ops with
  | nil => exact (if_pos (List.forall_mem_nil _)).symm
  | cons o os ih =>
    simp only [resolveOps, SrcOp.resolve_eq, ih, guard_bind, guard_and, List.forall_mem_cons, List.map_cons]

theorem mem_prefixGroup (ops : List OpParts) (f : Field) :
    f ∈ prefixGroup ops ↔ ∃ o ∈ ops, o.code = some (f, .prefix) := by
  unfold prefixGroup
  simp only [List.mem_reverse, List.mem_filterMap]
  refine exists_congr fun o => and_congr_right fun _ => ?_
  rcases o with ⟨_ | ⟨c, _ | _⟩, a⟩ <;> simp [eq_comm]

theorem mem_suffixGroup (ops : List OpParts) (f : Field) :
    f ∈ suffixGroup ops ↔ ∃ o ∈ ops, o.code = some (f, .suffix) := by
  unfold suffixGroup
  simp only [List.mem_filterMap]
  refine exists_congr fun o => and_congr_right fun _ => ?_
  rcases o with ⟨_ | ⟨c, _ | _⟩, a⟩ <;> simp [eq_comm]

theorem mem_fieldOrder (ops : List OpParts) (oc : Field) (sfx : Option Field) (ra rc : Bool)
    (f : Field) :
    f ∈ fieldOrder ops oc sfx ra rc ↔ f = oc ∨ f ∈ sfx.toList ∨ ∃ o ∈ ops, f ∈ o.fields := by
  rw [fieldOrder_eq_specOrder']
  have r : ∀ (b : Bool) (l : List Field), f ∈ (if b then l.reverse else l) ↔ f ∈ l := by
    intro b l; cases b <;> simp
  unfold specOrder argGroup
  simp only [List.mem_append, r, mem_prefixGroup, mem_suffixGroup, List.mem_filterMap, List.mem_singleton,
    OpParts.mem_fields]
  -- the five groups of `specOrder` on the left; on the right the three operand groups are the one `∃`
  constructor
  · rintro ((((⟨o, ho, h⟩ | h) | ⟨o, ho, h⟩) | h) | ⟨o, ho, h⟩)
    · exact Or.inr (Or.inr ⟨o, ho, Or.inl ⟨_, h⟩⟩)
    · exact Or.inl h
    · exact Or.inr (Or.inr ⟨o, ho, Or.inl ⟨_, h⟩⟩)
    · exact Or.inr (Or.inl h)
    · exact Or.inr (Or.inr ⟨o, ho, Or.inr h⟩)
  · rintro (h | h | ⟨o, ho, ⟨p, h⟩ | h⟩)
    · exact Or.inl (Or.inl (Or.inl (Or.inr h)))
    · exact Or.inl (Or.inr h)
    · cases p
      · exact Or.inl (Or.inl (Or.inl (Or.inl ⟨o, ho, h⟩)))
      · exact Or.inl (Or.inl (Or.inr ⟨o, ho, h⟩))
    · exact Or.inr ⟨o, ho, h⟩

theorem fieldOrder_ne_nil {ops : List OpParts} {oc : Field} {sfx : Option Field} {ra rc : Bool} :
    fieldOrder ops oc sfx ra rc ≠ [] :=
  List.ne_nil_of_mem ((mem_fieldOrder ..).mpr (Or.inl rfl))

theorem forall_fieldOrder (P : Field → Prop) (ops : List OpParts) (oc : Field)
    (sfx : Option Field) (ra rc : Bool) :
    (∀ f ∈ fieldOrder ops oc sfx ra rc, P f) ↔
      P oc ∧ (∀ s ∈ sfx.toList, P s) ∧ ∀ o ∈ ops, ∀ f ∈ o.fields, P f := by
  simp only [mem_fieldOrder, or_imp, forall_and, forall_eq, forall_exists_index, and_imp]
  exact and_congr_right fun _ => and_congr_right fun _ =>
    ⟨fun h o ho f hf => h f o ho hf, fun h f o ho hf => h o ho f hf⟩

theorem forall_fieldOrder_emitted (P : Field → Prop) (addr size : Int) (ops : List SrcOp)
    (oc : Field) (sfx : Option Field) (ra rc : Bool) :
    (∀ f ∈ fieldOrder (ops.map fun o => o.emittedParts addr size) oc sfx ra rc, P f) ↔
      P oc ∧ (∀ s ∈ sfx.toList, P s) ∧ ∀ o ∈ ops, ∀ f ∈ o.fields, P (f.emittedField addr size) := by
  rw [forall_fieldOrder]
  simp only [List.forall_mem_map, SrcOp.emittedParts_fields]

/-- forget the value (and byte order) of a field: what is left is all the size loop looks at -/
def Field.nz (f : Field) : Field := { value := 0, size := f.size, align := f.align, little := false }

def OpParts.mapFields (g : Field → Field) (o : OpParts) : OpParts :=
  { code := o.code.map fun (f, p) => (g f, p), arg := o.arg.map g }

abbrev OpParts.nz := OpParts.mapFields Field.nz

theorem totalBits_map_nz (fs : List Field) (acc : Nat) :
    totalBits (fs.map Field.nz) acc = totalBits fs acc := by
  induction fs generalizing acc with
  | nil => rfl
  | cons f fs ih => simp only [List.map_cons, totalBits, Field.nz, ih]

theorem fieldOrder_map (g : Field → Field) (ops : List OpParts) (oc : Field)
    (sfx : Option Field) (ra rc : Bool) :
    (fieldOrder ops oc sfx ra rc).map g =
      fieldOrder (ops.map (OpParts.mapFields g)) (g oc) (sfx.map g) ra rc := by
  -- each of the three groups selects one field per operand, and selecting commutes with `mapFields g`
  have group (sel : OpParts → Option Field) (hsel : ∀ o, (sel o).map g = sel (o.mapFields g)) :
      (ops.filterMap sel).map g = (ops.map (OpParts.mapFields g)).filterMap sel := by
    rw [List.map_filterMap, List.filterMap_map]
    exact congrArg (List.filterMap · ops) (funext hsel)
  have r (b : Bool) (l : List Field) :
      (if b then l.reverse else l).map g = if b then (l.map g).reverse else l.map g := by
    cases b <;> simp
  rw [fieldOrder_eq_specOrder', fieldOrder_eq_specOrder']
  unfold specOrder prefixGroup suffixGroup argGroup
  simp only [List.map_append, r, List.map_reverse, List.map_cons, List.map_nil]
  rw [group _ (by rintro ⟨_ | ⟨c, _ | _⟩, a⟩ <;> rfl), group _ (by rintro ⟨_ | ⟨c, _ | _⟩, a⟩ <;> rfl),
    group _ (fun _ => rfl)]
  cases sfx <;> rfl

theorem byteSizeOf_fieldOrder_congr (ops ops' : List OpParts) (opcode : Field) (sfx : Option Field)
    (ra rc : Bool) (h : ops.map OpParts.nz = ops'.map OpParts.nz) :
    byteSizeOf (fieldOrder ops opcode sfx ra rc) = byteSizeOf (fieldOrder ops' opcode sfx ra rc) := by
  unfold byteSizeOf
  rw [← totalBits_map_nz (fieldOrder ops _ _ _ _), ← totalBits_map_nz (fieldOrder ops' _ _ _ _),
    fieldOrder_map, fieldOrder_map, h]

theorem byteSizeOf_fieldOrder_emitted (addr size : Int) (ops : List SrcOp) (oc : Field)
    (sfx : Option Field) (ra rc : Bool) :
    byteSizeOf (fieldOrder (ops.map fun o => o.emittedParts addr size) oc sfx ra rc) =
      byteSizeOf (fieldOrder (ops.map SrcOp.shape) oc sfx ra rc) := by
  apply byteSizeOf_fieldOrder_congr
  rw [List.map_map, List.map_map]
  apply List.map_congr_left
  intro o _
  simp only [Function.comp, OpParts.mapFields, SrcOp.emittedParts, SrcOp.shape, Option.map_map]
  rfl

theorem encodeInstr_length {addr : Int} {ops : List SrcOp} {opcode : Field} {sfx : Option Field}
    {ra rc : Bool} {bs : List Nat} (h : encodeInstr addr ops opcode sfx ra rc = .ok (some bs)) :
    bs.length = instrSize ops opcode sfx ra rc := by
  rw [encodeInstr, resolveOps_eq, guard_bind] at h
  split at h
  · rw [getBytes_length h, byteSizeOf_fieldOrder_emitted]
    rfl
  · cases h

theorem specEncodeInstr_cond_iff (addr size : Int) (ops : List SrcOp) (oc : Field)
    (sfx : Option Field) (ra rc : Bool) :
    ((∀ o ∈ ops, o.Good addr size) ∧ Fits oc.value oc.size ∧ (∀ s ∈ sfx.toList, Fits s.value s.size))
      ↔ (∀ o ∈ ops, o.Sat addr size) ∧
        ∀ f ∈ fieldOrder (ops.map fun o => o.emittedParts addr size) oc sfx ra rc,
          Fits f.value f.size := by
  rw [forall_fieldOrder_emitted (fun f => Fits f.value f.size)]
  simp only [SrcOp.good_iff, SrcOp.Sat, SrcField.Good, imp_and, forall_and]
  exact ⟨fun ⟨⟨h1, h4⟩, h2, h3⟩ => ⟨h1, h2, h3, h4⟩, fun ⟨h1, h2, h3, h4⟩ => ⟨⟨h1, h4⟩, h2, h3⟩⟩

/-- the implementation against the specification in one statement: the specified bytes where the
    specification accepts, otherwise the error of the first stage that fails.
    `h0`–`h2`, no field of width 0: see `pushBit_abs` (Lemmas/Bits) -/
theorem encodeInstr_spec {addr : Int} {ops : List SrcOp} {oc : Field} {sfx : Option Field}
    {ra rc : Bool} (h0 : 1 ≤ oc.size) (h1 : ∀ s ∈ sfx.toList, 1 ≤ s.size)
    (h2 : ∀ o ∈ ops, (∀ f p, o.code = some (f, p) → 1 ≤ f.size) ∧
      (∀ f, o.arg = some f → 1 ≤ f.size)) :
    encodeInstr addr ops oc sfx ra rc =
      match specEncodeInstr addr ops oc sfx ra rc with
      | some bs => .ok (some bs)
      | none => .error (if ∀ o ∈ ops, o.Sat addr (instrSize ops oc sfx ra rc) then .fieldOverflow
                        else .constraint) := by
  have hcond := specEncodeInstr_cond_iff addr (instrSize ops oc sfx ra rc) ops oc sfx ra rc
  rw [specEncodeInstr, encodeInstr, resolveOps_eq, guard_bind]
  -- in the order of the implementation: the operands are resolved, then their fields are packed
  by_cases hsat : ∀ o ∈ ops, o.Sat addr (instrSize ops oc sfx ra rc)
  · simp only [if_pos hsat]
    by_cases hfit : ∀ f ∈ fieldOrder (ops.map fun o => o.emittedParts addr (instrSize ops oc sfx ra rc)) oc sfx ra rc,
        Fits f.value f.size
    · have hpos := (forall_fieldOrder_emitted (fun f => 1 ≤ f.size) addr (instrSize ops oc sfx ra rc) ops oc sfx
        ra rc).mpr ⟨h0, h1, fun o ho => (o.forall_fields _).mpr (h2 o ho)⟩
      rw [if_pos (hcond.mpr ⟨hsat, hfit⟩),
        getBytes_eq_spec' fieldOrder_ne_nil fun f hf => ⟨hpos f hf, hfit f hf⟩,
        fieldOrder_eq_specOrder']
    · rw [if_neg fun hc => hfit (hcond.mp hc).2]
      exact getBytes_eq_error_iff.mpr
        ⟨rfl, by simpa only [Classical.not_forall, Classical.not_imp, exists_prop] using hfit⟩
  · simp only [if_neg hsat, if_neg fun hc => hsat (hcond.mp hc).1]

theorem SrcOp.resolve_congr {o : SrcOp} {a₁ a₂ size : Int}
    (h1 : ∀ f p, o.code = some (f, p) → f.resolveField a₁ size = f.resolveField a₂ size)
    (h2 : ∀ f, o.arg = some f → f.resolveField a₁ size = f.resolveField a₂ size) :
    o.resolve a₁ size = o.resolve a₂ size := by
  rcases o with ⟨_ | ⟨c, p⟩, _ | a⟩
  · rfl
  · simp only [SrcOp.resolve, h2 a rfl]
  · simp only [SrcOp.resolve, h1 c p rfl]
  · simp only [SrcOp.resolve, h1 c p rfl, h2 a rfl]

theorem resolveOps_congr {a₁ a₂ size : Int} {ops : List SrcOp}
    (h : ∀ o ∈ ops, o.resolve a₁ size = o.resolve a₂ size) :
    resolveOps a₁ size ops = resolveOps a₂ size ops := by
  induction ops with
  | nil => rfl
  | cons o os ih =>
    simp only [resolveOps, h o (List.mem_cons_self ..),
      ih fun o' ho' => h o' (List.mem_cons_of_mem _ ho')]

theorem sliced_fits (v : Int) (w : Nat) : Fits (v % (2 : Int) ^ w) w := by
  have hp : (0 : Int) < (2 : Int) ^ w := Int.pow_pos (by decide)
  have h1 := Int.emod_nonneg v (Int.ne_of_gt hp)
  have h2 := Int.emod_lt_of_pos v hp
  unfold Fits
  split
  · next h0 => subst h0; simp at h2 ⊢
  · have hq : (0 : Int) < (2 : Int) ^ (w - 1) := Int.pow_pos (by decide)
    exact ⟨by omega, h2⟩

end BV
