/-
  Every description of "the byte at address `a`" is a `findSome?` of `lineGet a` over the lines: the
  dictionary finds the last line that covers `a` (`mapGet_memMap`), the specification the first
  (`specImageByte_eq_findSome`); the two agree when no two lines cover a common address.
  `maxAddr` is `List.max?` of the list of keys (`foldl_bump`, `maxAddr_eq_max?`).
-/
import BespokeVerif.Model.Layout
import BespokeVerif.Lemmas.Basics
namespace BV

theorem sortByAddr_eq (ps : List Placed) :
    sortByAddr ps = ps.foldr (insertBy fun a b => a.addr ≤ b.addr) [] := by
  rw [sortByAddr, insertBy_unique (ins := insertByAddr) (fun a b : Placed => a.addr ≤ b.addr) (fun _ => rfl)
    fun _ _ _ => rfl]

theorem sortByAddr_perm' (ps : List Placed) : (sortByAddr ps).Perm ps := by
  rw [sortByAddr_eq]; exact sortBy_perm _ ps

/-- the lines that take part in the overlap check -/
def occ (e : Emitted) : Bool := e.isByte && decide (e.size > 0)

theorem overlapCheck_cons_occ {last : Option Emitted} {e : Emitted} {rest : List Emitted}
    (h : occ e = true) :
    overlapCheck last (e :: rest) =
      match last with
      | some l => if l.addr + l.size > e.addr then .error .overlap else overlapCheck (some e) rest
      | none => overlapCheck (some e) rest := by
  unfold occ at h
  conv => lhs; unfold overlapCheck
  rw [if_pos h]
  cases last <;> rfl

theorem overlapCheck_cons_not_occ {last : Option Emitted} {e : Emitted} {rest : List Emitted}
    (h : occ e = false) :
    overlapCheck last (e :: rest) = overlapCheck last rest := by
  unfold occ at h
  conv => lhs; unfold overlapCheck
  rw [if_neg (by simp [h])]

theorem occ_size_pos {e : Emitted} (h : occ e = true) : e.size > 0 := by
  simp [occ] at h; exact h.2

theorem overlapCheck_cons_ok {last : Option Emitted} {e : Emitted} {rest : List Emitted} (ho : occ e = true) :
    overlapCheck last (e :: rest) = .ok () ↔
      (∀ l, last = some l → l.addr + l.size ≤ e.addr) ∧ overlapCheck (some e) rest = .ok () := by
  rw [overlapCheck_cons_occ ho]
  cases last with
  | none => exact ⟨fun h => ⟨fun _ hl => (nomatch hl), h⟩, fun h => h.2⟩
  | some l =>
    simp only
    split
    · exact ⟨fun h => (nomatch h), fun h => absurd (h.1 l rfl) (Int.not_le.mpr ‹_›)⟩
    · exact ⟨fun h => ⟨fun l' hl' => by cases hl'; exact Int.not_lt.mp ‹_›, h⟩, fun h => h.2⟩

theorem overlapCheck_ok_iff {es : List Emitted} {last : Option Emitted} :
    overlapCheck last es = .ok () ↔
      (∀ l, last = some l → ∀ e ∈ es.filter occ, l.addr + l.size ≤ e.addr) ∧
      (es.filter occ).Pairwise (fun e e' => e.addr + e.size ≤ e'.addr) := by
  induction es generalizing last with
  | nil => exact ⟨fun _ => ⟨fun _ _ _ he => (nomatch he), List.Pairwise.nil⟩, fun _ => rfl⟩
  | cons e rest ih =>
    by_cases ho : occ e = true
    · rw [overlapCheck_cons_ok ho, List.filter_cons_of_pos ho, List.pairwise_cons, ih]
      -- an occupying line has a positive size, so what ends before `e` begins ends before everything behind `e`
      have hpos := occ_size_pos ho
      constructor
      · rintro ⟨h1, h2, h3⟩
        refine ⟨fun l hl e' he' => ?_, h2 e rfl, h3⟩
        rcases List.mem_cons.mp he' with rfl | he'
        · exact h1 l hl
        · have := h1 l hl
          have := h2 e rfl e' he'
          omega
      · rintro ⟨h1, h2, h3⟩
        exact ⟨fun l hl => h1 l hl e List.mem_cons_self, fun l hl e' he' => by cases hl; exact h2 e' he', h3⟩
    · rw [overlapCheck_cons_not_occ (by simpa using ho), List.filter_cons_of_neg ho]
      exact ih

theorem overlapCheck_filter (es : List Emitted) : ∀ (last : Option Emitted),
    overlapCheck last es = overlapCheck last (es.filter occ) := by
  induction es with
  | nil => intro _; rfl
  | cons e es ih =>
    intro last
    by_cases ho : occ e = true
    · rw [List.filter_cons_of_pos ho, overlapCheck_cons_occ ho, overlapCheck_cons_occ ho, ih]
    · rw [List.filter_cons_of_neg ho, overlapCheck_cons_not_occ (by simpa using ho), ih]

theorem overlapCheck_error_kind {es : List Emitted} {last : Option Emitted} :
    Errs (· = .overlap) (overlapCheck last es) := by
  induction es generalizing last with
  | nil => exact .ok _
  | cons e rest ih =>
    unfold overlapCheck
    -- occupying or not; a line before it or not; reaching into it or not
    refine .ite (fun _ => ?_) fun _ => ih
    split
    · exact .ite (fun _ => .error rfl) fun _ => ih
    · exact ih

/-- one dictionary assignment `m[a] = b` -/
def mput (m : List (Int × Nat)) (a : Int) (b : Nat) : List (Int × Nat) :=
  (m.filter (·.1 ≠ a)) ++ [(a, b)]

theorem mapGet_nil (a : Int) : mapGet [] a = none := rfl

theorem mapGet_cons (x : Int × Nat) (m : List (Int × Nat)) (a : Int) :
    mapGet (x :: m) a = if x.1 = a then some x.2 else mapGet m a := by
  unfold mapGet
  rw [List.find?_cons]
  by_cases h : x.1 = a
  · simp [h]
  · have hb : (x.1 == a) = false := by simpa using h
    simp [h, hb]

theorem mapGet_mput (m : List (Int × Nat)) (a : Int) (b : Nat) (a' : Int) :
    mapGet (mput m a b) a' = if a' = a then some b else mapGet m a' := by
  unfold mput
  induction m with
  | nil =>
    simp only [List.filter_nil, List.nil_append, mapGet_cons, mapGet_nil]
    by_cases h : a = a'
    · simp [h]
    · have h' : ¬ a' = a := fun e => h e.symm
      simp [h, h']
  | cons x m ih =>
    by_cases hx : x.1 = a
    · rw [List.filter_cons_of_neg (by simpa using hx), ih, mapGet_cons]
      by_cases h : a' = a
      · simp [h]
      · have : ¬ x.1 = a' := by omega
        simp [h, this]
    · rw [List.filter_cons_of_pos (by simpa using hx), List.cons_append, mapGet_cons, ih,
        mapGet_cons]
      by_cases h : a' = a
      · simp [h, hx]
      · simp [h]

/-- the inner loop: the first `n` bytes of a line -/
def putLine (m : List (Int × Nat)) (e : Emitted) (n : Nat) : List (Int × Nat) :=
  (List.range n).foldl (fun m (i : Nat) => mput m (e.addr + (i : Int)) e.bytes[i]!) m

theorem putLine_succ (m : List (Int × Nat)) (e : Emitted) (n : Nat) :
    putLine m e (n + 1) = mput (putLine m e n) (e.addr + (n : Int)) e.bytes[n]! := by
  unfold putLine
  rw [List.range_succ, List.foldl_append]
  rfl

theorem mapGet_putLine (m : List (Int × Nat)) (e : Emitted) (n : Nat) (a : Int) :
    mapGet (putLine m e n) a =
      if e.addr ≤ a ∧ a < e.addr + (n : Int) then some e.bytes[(a - e.addr).toNat]!
      else mapGet m a := by
  induction n with
  | zero => exact (if_neg (by omega)).symm
  | succ n ih =>
    rw [putLine_succ, mapGet_mput, ih]
    by_cases h : a = e.addr + (n : Int)
    · rw [if_pos h, if_pos (by omega), show (a - e.addr).toNat = n by omega]
    · -- away from the new address the window of `n + 1` bytes has the members of the window of `n`
      rw [if_neg h]
      exact ite_cond_congr (propext (by omega))

/-- the predicate of `specImageByte`: an unmuted byte line covers `a` -/
def cov (e : Emitted) (a : Int) : Bool :=
  e.isByte && !e.muted && decide (e.addr ≤ a) && decide (a < e.addr + e.bytes.length)

theorem cov_iff {e : Emitted} {a : Int} :
    cov e a = true ↔
      e.isByte = true ∧ e.muted = false ∧ e.addr ≤ a ∧ a < e.addr + e.bytes.length := by
  simp [cov, and_assoc]

def lineGet (a : Int) (e : Emitted) : Option Nat :=
  if cov e a then some e.bytes[(a - e.addr).toNat]! else none

theorem lineGet_isSome (a : Int) (e : Emitted) : (lineGet a e).isSome = cov e a := by
  unfold lineGet
  cases cov e a <;> rfl

theorem findSome?_lineGet_none {l : List Emitted} {a : Int} :
    l.findSome? (lineGet a) = none ↔ ∀ e ∈ l, cov e a = false := by
  rw [List.findSome?_eq_none_iff]
  simp only [← Option.not_isSome_iff_eq_none, lineGet_isSome, Bool.not_eq_true]

/-- the outer loop body -/
def lineStep (m : List (Int × Nat)) (e : Emitted) : List (Int × Nat) :=
  if e.isByte && !e.muted then putLine m e e.bytes.length else m

theorem memMap_eq (es : List Emitted) : memMap es = es.foldl lineStep [] := rfl

theorem mapGet_lineStep (m : List (Int × Nat)) (e : Emitted) (a : Int) :
    mapGet (lineStep m e) a = (lineGet a e).or (mapGet m a) := by
  unfold lineStep lineGet cov
  cases e.isByte && !e.muted
  · rfl
  · rw [if_pos rfl, mapGet_putLine]
    simp only [Bool.true_and, Bool.and_eq_true, decide_eq_true_eq]
    split <;> rfl

theorem mapGet_memMap (es : List Emitted) (a : Int) :
    mapGet (memMap es) a = es.reverse.findSome? (lineGet a) := by
  have key : ∀ (es : List Emitted) (m : List (Int × Nat)),
      mapGet (es.foldl lineStep m) a = (es.reverse.findSome? (lineGet a)).or (mapGet m a) := by
    intro es
    induction es with
    | nil => intro m; rfl
    | cons e es ih =>
      intro m
      rw [List.foldl_cons, ih, mapGet_lineStep, List.reverse_cons, List.findSome?_append,
        List.findSome?_singleton, Option.or_assoc]
  rw [memMap_eq, key es [], mapGet_nil, Option.or_none]

theorem mapGet_isSome (m : List (Int × Nat)) (a : Int) : (mapGet m a).isSome = true ↔ a ∈ m.map (·.1) := by
  unfold mapGet
  rw [Option.isSome_map, List.find?_isSome, List.mem_map]
  simp only [beq_iff_eq]

theorem mem_keys_memMap {es : List Emitted} {a : Int} :
    a ∈ (memMap es).map (·.1) ↔ ∃ e ∈ es, cov e a = true := by
  rw [← mapGet_isSome, mapGet_memMap, List.findSome?_isSome_iff]
  simp only [List.mem_reverse, lineGet_isSome]

def maxStep (acc : Option Int) (e : Int × Nat) : Option Int :=
  match acc with | none => some e.1 | some x => some (max x e.1)

theorem maxAddr_eq (m : List (Int × Nat)) : maxAddr m = m.foldl maxStep none := rfl

/-- the running maximum that `maxAddr` and `lastByteAddr` fold is `List.max?` -/
theorem foldl_bump (ks : List Int) : ∀ (acc : Option Int),
    ks.foldl (fun acc k => some (bump acc k)) acc = (acc.toList ++ ks).max? := by
  induction ks with
  | nil => intro acc; cases acc <;> rfl
  | cons k ks ih =>
    intro acc
    rw [List.foldl_cons, ih]
    cases acc <;> rfl

theorem maxAddr_eq_max? (m : List (Int × Nat)) : maxAddr m = (m.map (·.1)).max? := by
  refine Eq.trans ?_ (foldl_bump (m.map (·.1)) none)
  rw [List.foldl_map]
  unfold maxAddr
  congr 1
  funext acc e
  cases acc <;> rfl

def NoCommon (es : List Emitted) : Prop :=
  es.Pairwise fun e e' => ∀ a, ¬ (cov e a = true ∧ cov e' a = true)

theorem findSome?_reverse_of_noCommon {es : List Emitted} (hno : NoCommon es) (a : Int) :
    es.reverse.findSome? (lineGet a) = es.findSome? (lineGet a) := by
  induction es with
  | nil => rfl
  | cons e es ih =>
    unfold NoCommon at hno
    rw [List.pairwise_cons] at hno
    rw [List.reverse_cons, List.findSome?_append, ih hno.2, List.findSome?_singleton, List.findSome?_cons]
    cases hl : lineGet a e with
    | none => exact Option.or_none
    | some b =>
      -- `e` covers `a`, so no later line does
      have hc : cov e a = true := by rw [← lineGet_isSome, hl]; rfl
      rw [findSome?_lineGet_none.mpr fun e' he' => Bool.eq_false_iff.mpr fun hce => hno.1 e' he' a ⟨hc, hce⟩]
      rfl

theorem specImageByte_eq_findSome (es : List Emitted) (fill : Nat) (a : Int) :
    specImageByte es fill a = (es.findSome? (lineGet a)).getD fill := by
  induction es with
  | nil => rfl
  | cons e es ih =>
    have hstep : specImageByte (e :: es) fill a =
        if cov e a then e.bytes[(a - e.addr).toNat]! else specImageByte es fill a := by
      unfold specImageByte
      rw [List.find?_cons]
      show (match (match cov e a with | true => some e | false => _) with | some e => _ | none => _) = _
      cases cov e a <;> rfl
    rw [hstep, List.findSome?_cons, ih]
    unfold lineGet
    cases cov e a <;> rfl

theorem specImageByte_eq {es : List Emitted} (hno : NoCommon es) (fill : Nat) (a : Int) :
    specImageByte es fill a = (mapGet (memMap es) a).getD fill := by
  rw [specImageByte_eq_findSome, mapGet_memMap, findSome?_reverse_of_noCommon hno]

theorem imageOf_length (start : Int) (stop : Option Int) (fill : Nat) (m : List (Int × Nat)) :
    (imageOf start stop fill m).length =
      ((match stop with | some e => e | none => (maxAddr m).getD (start - 1)) + 1 - start).toNat := by
  cases stop <;> simp only [imageOf, List.length_map, List.length_range]

theorem imageOf_eq_spec {es : List Emitted} (hno : NoCommon es) (start : Int) (stop : Option Int)
    (fill : Nat) :
    imageOf start stop fill (memMap es) =
      (List.range ((match stop with
          | some e => e
          | none => (maxAddr (memMap es)).getD (start - 1)) + 1 - start).toNat).map
        fun (i : Nat) => specImageByte es fill (start + (i : Int)) := by
  simp only [specImageByte_eq hno]
  rfl

end BV
