/-
  C11: the length of `wordBytes` (also needed by the layout lemmas) and the one equation of `unescape` its definition
  does not give.
-/
import BespokeVerif.Model.Layout
import BespokeVerif.Lemmas.Basics
namespace BV

theorem wordBytes_length (w : Nat) (little : Bool) (v : Int) : (wordBytes w little v).length = w := by
  unfold wordBytes
  cases little <;> simp

theorem flatMap_wordBytes_length (w : Nat) (little : Bool) (vs : List Int) :
    (vs.flatMap (wordBytes w little)).length = w * vs.length :=
  length_flatMap_const w fun v _ => wordBytes_length w little v

theorem unescape_cons_of_ne {c : Char} {rest : List Char} (hc : c ≠ '\\') :
    unescape (c :: rest) = c.toNat :: unescape rest := by
  rw [unescape.eq_def]
  split
  · contradiction
  · rename_i heq; cases heq; contradiction
  · rename_i heq; cases heq; rfl

end BV
