/-
  Version comparison for property C19: `relCmp` is the lexicographic order of the release numbers padded
  with zeros, `vcmp` refines it by the pre-release tag.
-/
import BespokeVerif.Model.Config
import BespokeVerif.Lemmas.Basics
namespace BV

theorem relCmp_then (a b : List Nat) :
    relCmp a b = (compare (a.headD 0) (b.headD 0)).then (relCmp a.tail b.tail) := by
  rw [Nat.compare_eq_ite_lt]
  cases a with
  | nil =>
    cases b with
    | nil => rw [List.headD_nil, List.tail_nil, relCmp]; rfl
    | cons y ys =>
      rw [relCmp]
      cases y with
      | zero => rfl
      | succ y => rw [if_neg (Nat.succ_ne_zero y), List.headD_nil, List.headD_cons, if_pos (Nat.succ_pos y)]; rfl
  | cons x xs =>
    cases b with
    | nil =>
      rw [relCmp]
      cases x with
      | zero => rfl
      | succ x =>
        rw [if_neg (Nat.succ_ne_zero x), List.headD_nil, List.headD_cons, if_neg (Nat.not_lt_zero _),
          if_pos (Nat.succ_pos x)]; rfl
    | cons y ys =>
      rw [relCmp, List.headD_cons, List.headD_cons]
      split
      · rfl
      · split <;> rfl

/-- induction along `relCmp_then`: all lists lose their heads together (the tail of `[]` is `[]`) -/
theorem tails_induction {P : List Nat → List Nat → List Nat → Prop} (nil : P [] [] [])
    (step : ∀ a b c, P a.tail b.tail c.tail → P a b c) (a b c : List Nat) : P a b c := by
  induction a generalizing b c with
  | cons _ _ ih => exact step _ _ _ (ih _ _)
  | nil =>
    induction b generalizing c with
    | cons _ _ ih => exact step _ _ _ (ih _)
    | nil =>
      induction c with
      | cons _ _ ih => exact step _ _ _ ih
      | nil => exact nil

-- `rw`, not `simp`, around `relCmp_then`: `simp` turns `headD` into `head?.getD`
theorem relCmp_eq_lt_iff (a b : List Nat) : relCmp a b = .lt ↔
    a.headD 0 < b.headD 0 ∨ (a.headD 0 = b.headD 0 ∧ relCmp a.tail b.tail = .lt) := by
  rw [relCmp_then, Ordering.then_eq_lt, Nat.compare_eq_lt, Nat.compare_eq_eq]

theorem relCmp_eq_eq_iff (a b : List Nat) : relCmp a b = .eq ↔
    a.headD 0 = b.headD 0 ∧ relCmp a.tail b.tail = .eq := by
  rw [relCmp_then, Ordering.then_eq_eq, Nat.compare_eq_eq]

theorem relCmp_swap' (a b : List Nat) : relCmp b a = (relCmp a b).swap := by
  -- `tails_induction` is stated for three lists; only two are needed here
  induction a, b, ([] : List Nat) using tails_induction with
  | nil => rw [relCmp]; rfl
  | step a b c ih => rw [relCmp_then a b, relCmp_then b a, Ordering.swap_then, Nat.compare_swap, ih]

theorem relCmp_eq_left {a b : List Nat} (c : List Nat) : relCmp a b = .eq → relCmp a c = relCmp b c := by
  induction a, b, c using tails_induction with
  | nil => intro _; rfl
  | step a b c ih =>
    rw [relCmp_eq_eq_iff, relCmp_then a c, relCmp_then b c]
    intro ⟨hh, ht⟩
    rw [hh, ih ht]

theorem relCmp_eq_right {b c : List Nat} (a : List Nat) (h : relCmp b c = .eq) : relCmp a b = relCmp a c := by
  have h' : relCmp c b = .eq := by rw [relCmp_swap' b c, h]; rfl
  rw [relCmp_swap' b a, relCmp_swap' c a, relCmp_eq_left a h']

theorem relCmp_lt_trans {a b c : List Nat} : relCmp a b = .lt → relCmp b c = .lt → relCmp a c = .lt := by
  induction a, b, c using tails_induction with
  | nil => rw [relCmp]; intro h; cases h
  | step a b c ih =>
    rw [relCmp_eq_lt_iff a b, relCmp_eq_lt_iff b c, relCmp_eq_lt_iff a c]
    rintro (h1 | ⟨h1, t1⟩) (h2 | ⟨h2, t2⟩)
    · exact .inl (Nat.lt_trans h1 h2)
    · exact .inl (h2 ▸ h1)
    · exact .inl (h1 ▸ h2)
    · exact .inr ⟨h1.trans h2, ih t1 t2⟩

theorem preCmp_some (k n k' n' : Nat) :
    preCmp (some (k, n)) (some (k', n')) = (compare k k').then (compare n n') := by
  rw [preCmp, Nat.compare_eq_ite_lt k k', Nat.compare_eq_ite_lt n n']
  by_cases h1 : k < k'
  · rw [if_pos h1, if_pos h1]; rfl
  · rw [if_neg h1, if_neg h1]
    by_cases h2 : k' < k
    · rw [if_pos h2, if_pos h2]; rfl
    · rw [if_neg h2, if_neg h2]; rfl

theorem preCmp_refl (p : Option (Nat × Nat)) : preCmp p p = .eq := by
  rcases p with _ | ⟨k, n⟩ <;> simp [preCmp]

theorem preCmp_swap (p q : Option (Nat × Nat)) : preCmp q p = (preCmp p q).swap := by
  rcases p with _ | ⟨k, n⟩ <;> rcases q with _ | ⟨k', n'⟩
  · rfl
  · rfl
  · rfl
  · rw [preCmp_some, preCmp_some, Ordering.swap_then, Nat.compare_swap, Nat.compare_swap]

theorem preCmp_some_ne_gt (k n k' n' : Nat) :
    preCmp (some (k, n)) (some (k', n')) ≠ .gt ↔ k < k' ∨ (k = k' ∧ n ≤ n') := by
  rw [ne_eq, preCmp_some, Ordering.then_eq_gt, Nat.compare_eq_gt, Nat.compare_eq_gt, Nat.compare_eq_eq]
  omega

theorem preCmp_le_trans {p q r : Option (Nat × Nat)} (h1 : preCmp p q ≠ .gt) (h2 : preCmp q r ≠ .gt) :
    preCmp p r ≠ .gt := by
  rcases r with _ | ⟨k'', n''⟩
  · cases p <;> exact Ordering.noConfusion
  · rcases q with _ | ⟨k', n'⟩
    · exact absurd rfl h2
    · rcases p with _ | ⟨k, n⟩
      · exact absurd rfl h1
      · rw [preCmp_some_ne_gt] at *
        omega

theorem vcmp_swap' (a b : Version) : vcmp b a = (vcmp a b).swap := by
  unfold vcmp
  rw [relCmp_swap' a.release b.release, preCmp_swap a.pre b.pre]
  cases relCmp a.release b.release <;> simp [Ordering.swap]

theorem vlt_eq_not_vle (a b : Version) : vlt a b = !vle b a := by
  unfold vlt vle
  rw [vcmp_swap' a b]
  cases vcmp a b <;> rfl

theorem vcmp_ne_gt_iff (a b : Version) :
    vcmp a b ≠ .gt ↔ relCmp a.release b.release = .lt ∨
      (relCmp a.release b.release = .eq ∧ preCmp a.pre b.pre ≠ .gt) := by
  unfold vcmp
  cases relCmp a.release b.release <;> simp

end BV
