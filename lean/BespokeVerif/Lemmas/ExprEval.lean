/-
  C07, evaluation: what the operators of `applyBin` and the byte extraction `BYTEn` compute, in terms of
  `bitAt` / `byteAt` of infinite two's complement.
-/
import BespokeVerif.Model.Expr
import BespokeVerif.Lemmas.Basics
namespace BV.EvalLemmas
open BV

theorem truncQ_intCast (n : Int) : truncQ (n : Rat) = n := by
  simp only [truncQ, Rat.num_intCast, Rat.den_intCast, Int.natCast_one, Int.tdiv_one]

theorem evalE_bin {env} {l r : E} {a b : Rat} (op : BinOp) (hl : evalE env l = .ok a)
    (hr : evalE env r = .ok b) : evalE env (.bin op l r) = applyBin op a b := by
  rw [evalE, hl, hr]
  rfl

theorem mod_bounds_pos (b : Rat) {d : Rat} (hb : 0 < b) (h0 : 0 ≤ d) (h1 : d < 1) : 0 ≤ b * d ∧ b * d < b := by
  refine ⟨Rat.mul_nonneg (Rat.le_of_lt hb) h0, ?_⟩
  have := Rat.mul_lt_mul_of_pos_left h1 hb
  rwa [Rat.mul_one] at this

theorem mod_bounds_neg (b : Rat) {d : Rat} (hb : b < 0) (h0 : 0 ≤ d) (h1 : d < 1) : b < b * d ∧ b * d ≤ 0 := by
  -- the positive case for `-b`, negated
  have := mod_bounds_pos (-b) (Rat.lt_neg_iff.2 (by rwa [Rat.neg_zero])) h0 h1
  rw [Rat.neg_mul, ← Rat.neg_zero, Rat.neg_le_neg_iff, Rat.neg_lt_neg_iff] at this
  exact ⟨this.2, this.1⟩

/-- Subtracting `x` borrows nothing at bit 0 when its low bit is at most that of `m`: the halves and
    the low bits are subtracted separately. -/
theorem sub_eq_of_mod_two_le {m x : Nat} (hle : x ≤ m) (hb : x % 2 ≤ m % 2) :
    m - x = 2 * (m / 2 - x / 2) + (m % 2 - x % 2) := by
  apply Nat.sub_eq_of_eq_add
  calc m = 2 * (m / 2) + m % 2 := (Nat.div_add_mod m 2).symm
    _ = 2 * ((m / 2 - x / 2) + x / 2) + ((m % 2 - x % 2) + x % 2) := by
      rw [Nat.sub_add_cancel (Nat.div_le_div_right hle), Nat.sub_add_cancel hb]
    _ = (2 * (m / 2 - x / 2) + (m % 2 - x % 2)) + (2 * (x / 2) + x % 2) := by
      rw [Nat.mul_add, Nat.add_add_add_comm]
    _ = _ := by rw [Nat.div_add_mod]

/-- the bits of `m &&& n` are among those of `m`, so this holds at every bit -/
theorem sub_and_eq (m n : Nat) :
    m - (m &&& n) = 2 * (m / 2 - (m / 2 &&& n / 2)) + (m % 2 - (m % 2 &&& n % 2)) := by
  have hmod : (m &&& n) % 2 = m % 2 &&& n % 2 := Nat.and_mod_two_pow (n := 1)
  rw [← Nat.and_div_two, ← hmod]
  exact sub_eq_of_mod_two_le Nat.and_le_left (hmod ▸ Nat.and_le_left)

theorem testBit_sub_and (m n i : Nat) : (m - (m &&& n)).testBit i = (m.testBit i && !n.testBit i) := by
  have hlt (m n : Nat) : m % 2 - (m % 2 &&& n % 2) < 2 :=
    Nat.lt_of_le_of_lt (Nat.sub_le _ _) (Nat.mod_lt _ (by decide))
  induction i generalizing m n with
  | zero =>
    rw [Nat.testBit_zero, Nat.testBit_zero, Nat.testBit_zero, sub_and_eq, Nat.mul_add_mod,
      Nat.mod_eq_of_lt (hlt m n)]
    rcases Nat.mod_two_eq_zero_or_one m with h | h <;> rcases Nat.mod_two_eq_zero_or_one n with h' | h' <;>
      rw [h, h'] <;> rfl
  | succ i ih =>
    rw [Nat.testBit_add_one, Nat.testBit_add_one, Nat.testBit_add_one, ← ih, sub_and_eq m n,
      Nat.mul_add_div (by decide), Nat.div_eq_of_lt (hlt m n), Nat.add_zero]

theorem applyBin_int_closed {op : BinOp} (hop : op ≠ .div) {a b : Int} {q : Rat}
    (h : applyBin op (a : Rat) (b : Rat) = .ok q) : ∃ n : Int, q = (n : Rat) := by
  cases op with
  | div => exact absurd rfl hop
  | add => exact ⟨a + b, by rw [← Except.ok.inj h, Rat.intCast_add]⟩
  | sub => exact ⟨a - b, by rw [← Except.ok.inj h, Rat.intCast_sub]⟩
  | mul => exact ⟨a * b, by rw [← Except.ok.inj h, Rat.intCast_mul]⟩
  | mod =>
    rw [applyBin] at h
    split at h
    · cases h
    · exact ⟨a - b * ((a : Rat) / (b : Rat)).floor, by rw [← Except.ok.inj h, Rat.intCast_sub, Rat.intCast_mul]⟩
  | shl | shr =>
    rw [applyBin] at h
    split at h
    · cases h
    · exact ⟨_, (Except.ok.inj h).symm⟩
  | band | bor | bxor => exact ⟨_, (Except.ok.inj h).symm⟩

theorem byte_mask {x : Int} {n bc : Nat} (h : n + 1 ≤ bc) :
    ((x % (2 : Int) ^ (8 * bc)).toNat / 256 ^ n) % 256 = byteAt x n := by
  rw [← byteAt_mod x h]
  have hy : 0 ≤ x % (2 : Int) ^ (8 * bc) := Int.emod_nonneg _ (Int.ne_of_gt (Int.pow_pos (by decide)))
  generalize x % (2 : Int) ^ (8 * bc) = y at hy
  obtain ⟨m, rfl⟩ := Int.eq_ofNat_of_zero_le hy
  unfold byteAt
  have : ((m : Int) / 256 ^ n % 256) = ((m / 256 ^ n % 256 : Nat) : Int) := by
    rw [Int.natCast_emod, Int.natCast_ediv, Int.natCast_pow]; rfl
  rw [this, Int.toNat_natCast, Int.toNat_natCast]

theorem byteN_spec (x : Int) (n : Nat) : byteNImpl x n = byteAt x n := by
  unfold byteNImpl
  exact byte_mask (Nat.le_max_right _ _)

end BV.EvalLemmas
