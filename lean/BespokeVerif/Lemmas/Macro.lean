/-
  C10 (macros): the accumulator-based specification `specSteps.go`
  against the running-address loop `assembleSteps`, and the macro variant loop `selectMacro.go`.
-/
import BespokeVerif.Model.Macro
import BespokeVerif.Lemmas.Select
namespace BV

theorem foldl_lengths_reverse (l : List (List Nat)) :
    (l.map List.length).foldl (· + ·) 0 = l.reverse.flatten.length := by
  rw [← List.sum_eq_foldl_nat, List.length_flatten, List.map_reverse, List.sum_reverse_nat]

theorem assembleSteps_cons (regs : List String) (gz : Int × Int) (env : String → Option Int) (tbl : InstrTable)
    (addr : Int) (mn : String) (fs : List Form) (rest : List (String × List Form)) :
    assembleSteps regs gz env tbl addr ((mn, fs) :: rest) =
      match tbl.find? (·.1 == mn) with
      | none => .error .unknownInstruction
      | some (_, variants) =>
        match assembleStmt regs gz env addr variants fs with
        | .error e => .error e
        | .ok (_, bs) => (assembleSteps regs gz env tbl (addr + bs.length) rest).map (bs ++ ·) := by
  rw [assembleSteps]
  cases tbl.find? (·.1 == mn) with
  | none => rfl
  | some xv =>
    obtain ⟨x, variants⟩ := xv
    dsimp only
    cases assembleStmt regs gz env addr variants fs with
    | error e => rfl
    | ok r => cases assembleSteps regs gz env tbl (addr + r.2.length) rest <;> rfl

theorem specGo_cons (regs : List String) (gz : Int × Int) (env : String → Option Int) (tbl : InstrTable)
    (addr : Int) (mn : String) (fs : List Form) (rest : List (String × List Form)) (acc : List (List Nat)) :
    specSteps.go regs gz env tbl addr ((mn, fs) :: rest) acc =
      match tbl.find? (·.1 == mn) with
      | none => .error .unknownInstruction
      | some (_, variants) =>
        match assembleStmt regs gz env (addr + (acc.reverse.flatten.length : Nat)) variants fs with
        | .error e => .error e
        | .ok (_, bs) => specSteps.go regs gz env tbl addr rest (bs :: acc) := by
  rw [specSteps.go, foldl_lengths_reverse]
  cases tbl.find? (·.1 == mn) with
  | none => rfl
  | some xv =>
    obtain ⟨x, variants⟩ := xv
    dsimp only
    cases assembleStmt regs gz env (addr + (acc.reverse.flatten.length : Nat)) variants fs <;> rfl

/-- the refinement, generalised over the accumulator; `a` is the running address -/
theorem specGo_eq (regs : List String) (gz : Int × Int) (env : String → Option Int) (tbl : InstrTable)
    (addr : Int) (rest : List (String × List Form)) (acc : List (List Nat)) (a : Int)
    (ha : a = addr + (acc.reverse.flatten.length : Nat)) :
    (specSteps.go regs gz env tbl addr rest acc).map List.flatten =
      (assembleSteps regs gz env tbl a rest).map fun tail => acc.reverse.flatten ++ tail := by
  induction rest generalizing acc a with
  | nil =>
    rw [specSteps.go, assembleSteps]
    simp [Except.map]
  | cons st rest ih =>
    rw [specGo_cons, assembleSteps_cons, ← ha]
    cases tbl.find? (·.1 == st.1) with
    | none => rfl
    | some xv =>
      dsimp only
      cases assembleStmt regs gz env a xv.2 st.2 with
      | error e => rfl
      | ok r =>
        dsimp only
        rw [ih (r.2 :: acc) (a + r.2.length) (by simp [ha]; omega)]
        cases assembleSteps regs gz env tbl (a + r.2.length) rest <;> simp [Except.map]

theorem specGo_length {regs : List String} {gz : Int × Int} {env : String → Option Int} {tbl : InstrTable}
    {addr : Int} {rest : List (String × List Form)} {acc : List (List Nat)} {bss : List (List Nat)}
    (h : specSteps.go regs gz env tbl addr rest acc = .ok bss) : bss.length = acc.length + rest.length := by
  induction rest generalizing acc with
  | nil =>
    rw [specSteps.go] at h
    cases h; simp
  | cons st rest ih =>
    rw [specGo_cons] at h
    split at h
    · cases h
    · split at h
      · cases h
      · have := ih h
        simp only [List.length_cons] at this ⊢
        omega

theorem selectMacroGo_eq_firstOk (regs : List String) (gz : Int × Int) (mvs : List MacroVariant) (fs : List Form)
    (i : Nat) :
    selectMacro.go regs gz fs mvs i = firstOk (fun mv => matchVariant regs gz mv.operands fs) mvs i := by
  induction mvs generalizing i with
  | nil => rfl
  | cons v vs ih =>
    rw [selectMacro.go, firstOk, ih]
    cases matchVariant regs gz v.operands fs <;> rfl

theorem selectMacro_ok {regs : List String} {gz : Int × Int} {mvs : List MacroVariant} {fs : List Form} {j : Nat}
    {mv : MacroVariant} {m : Matched} (h : selectMacro regs gz mvs fs = .ok (j, mv, m)) :
    ∃ pre post, mvs = pre ++ mv :: post ∧ j = pre.length ∧
      (∀ u ∈ pre, matchVariant regs gz u.operands fs = .decline) ∧
      matchVariant regs gz mv.operands fs = .ok m := by
  obtain ⟨pre, post, hl, hj, hpre, hv⟩ :=
    firstOk_ok ((selectMacroGo_eq_firstOk regs gz mvs fs 0).symm.trans h)
  exact ⟨pre, post, hl, hj.trans (Nat.zero_add _), hpre, hv⟩

end BV
