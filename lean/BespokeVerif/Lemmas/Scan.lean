/-
  The scanner of `Model/Scan.lean` (C18), one stretch of text at a time: what `tokenizeAux` does with blanks, a
  comment, a word, a punctuation character, a quoted literal.  Both loops only ever put things on top of their
  accumulator (`tokenizeAux_acc`, `splitStmts_acc`), which is what lets a line be cut at a mnemonic
  (`splitStmts_compound`).
-/
import BespokeVerif.Model.Scan
import BespokeVerif.Lemmas.Basics
namespace BV

theorem not_space {p : Char → Bool} (h1 : p ' ' = false) (h2 : p '\t' = false) {c : Char} (h : p c = true) :
    isSpaceChar c = false := by
  rw [isSpaceChar, beq_false_of_class h h1, beq_false_of_class h h2]; rfl

theorem not_quote {p : Char → Bool} (h1 : p '"' = false) (h2 : p '\'' = false) {c : Char} (h : p c = true) :
    isQuote c = false := by
  rw [isQuote, beq_false_of_class h h1, beq_false_of_class h h2]; rfl

theorem isQuote_ne_backslash {c : Char} (h : isQuote c = true) : c ≠ '\\' :=
  ne_of_apply_ne isQuote (by rw [h]; decide)

theorem isSpaceChar_not_quote {c : Char} (h : isSpaceChar c = true) : isQuote c = false :=
  not_quote (p := isSpaceChar) (by decide) (by decide) h

theorem isPunct_not_quote {c : Char} (h : isPunct c = true) : isQuote c = false :=
  not_quote (p := isPunct) (by decide) (by decide) h

theorem wordChar_not_space {c : Char} (h : isWordChar c = true) : isSpaceChar c = false :=
  not_space (p := isWordChar) (by decide) (by decide) h

theorem tokenizeAux_spaces {ws : List Char} (rest : List Char) (acc : List String)
    (h : ∀ c ∈ ws, isSpaceChar c = true) :
    tokenizeAux none (ws ++ rest) [] acc = tokenizeAux none rest [] acc := by
  induction ws with
  | nil => rfl
  | cons c ws ih =>
    have hc := h c (List.mem_cons_self ..)
    have ih := ih (fun x hx => h x (List.mem_cons_of_mem _ hx))
    simp only [List.cons_append, tokenizeAux, beq_false_of_class hc (d := ';') rfl, isSpaceChar_not_quote hc, hc,
      List.isEmpty_nil, if_true, Bool.false_eq_true, if_false]
    exact ih

theorem tokenizeAux_comment {s : List Char} (c cur : List Char) (acc : List String)
    (h : ∀ x ∈ s, x ≠ ';' ∧ isQuote x = false) :
    tokenizeAux none (s ++ ';' :: c) cur acc = tokenizeAux none s cur acc := by
  induction s generalizing cur acc with
  | nil => simp [tokenizeAux]
  | cons x s ih =>
    have hx : (x == ';') = false := by simpa using (h x (List.mem_cons_self ..)).1
    have hq := (h x (List.mem_cons_self ..)).2
    simp only [List.cons_append, tokenizeAux, hx, hq, Bool.false_eq_true, if_false,
      ih _ _ fun y hy => h y (List.mem_cons_of_mem _ hy)]

theorem tokenizeAux_word (w rest cur : List Char) (acc : List String)
    (h : ∀ c ∈ w, isQuote c = false ∧ isPunct c = false ∧ c ≠ ';' ∧ isSpaceChar c = false) :
    tokenizeAux none (w ++ rest) cur acc = tokenizeAux none rest (w.reverse ++ cur) acc := by
  induction w generalizing cur with
  | nil => rfl
  | cons c w ih =>
    obtain ⟨h4, h1, h2, h3⟩ := h c (List.mem_cons_self ..)
    have h2' : (c == ';') = false := by simpa using h2
    have ih := ih (c :: cur) (fun y hy => h y (List.mem_cons_of_mem _ hy))
    simp only [List.cons_append, tokenizeAux, h1, h2', h3, h4, Bool.false_eq_true, if_false]
    rw [ih]; simp

def Delim (r : List Char) : Prop :=
  ∀ c, r.head? = some c → isSpaceChar c = true ∨ isPunct c = true ∨ isQuote c = true

theorem Delim.cons {c : Char} (r : List Char) (h : isSpaceChar c = true ∨ isPunct c = true ∨ isQuote c = true) :
    Delim (c :: r) :=
  fun _ hc => Option.some.inj hc ▸ h

theorem Delim.gap {g r : List Char} (hg : ∀ c ∈ g, isSpaceChar c = true) (hr : g = [] → Delim r) : Delim (g ++ r) := by
  cases g with
  | nil => exact hr rfl
  | cons d g => exact .cons _ (.inl (hg d (List.mem_cons_self ..)))

theorem tokenizeAux_flush {r cur : List Char} (acc : List String) (hd : Delim r) (hc : cur ≠ []) :
    tokenizeAux none r cur acc = tokenizeAux none r [] (String.ofList cur.reverse :: acc) := by
  have hce : cur.isEmpty = false := by cases cur <;> simp_all
  cases r with
  | nil => simp [tokenizeAux, hce]
  | cons c r =>
    simp only [tokenizeAux, hce, List.isEmpty_nil, if_true, Bool.false_eq_true, if_false]
    rcases hd c rfl with h | h | h
    · simp only [h, isSpaceChar_not_quote h, if_true, Bool.false_eq_true, if_false]
    · simp only [h, isPunct_not_quote h, if_true, Bool.false_eq_true, if_false]
    · simp only [h, if_true]

theorem tokenizeAux_punct {c : Char} {r : List Char} (acc : List String) (hp : isPunct c = true) :
    tokenizeAux none (c :: r) [] acc = tokenizeAux none r [] (String.ofList [c] :: acc) := by
  simp only [tokenizeAux, beq_false_of_class hp (d := ';') rfl, not_space (p := isPunct) rfl rfl hp, hp,
    isPunct_not_quote hp, List.isEmpty_nil, if_true, Bool.false_eq_true, if_false]

theorem tokenizeAux_inside {q : Char} {body : List Char} (rest cur : List Char) (acc : List String) (hq : q ≠ '\\')
    (hb : ∀ c ∈ body, c ≠ q ∧ c ≠ '\\') :
    tokenizeAux (some (q, false)) (body ++ q :: rest) cur acc
      = tokenizeAux none rest [] (String.ofList (cur.reverse ++ body ++ [q]) :: acc) := by
  induction body generalizing cur with
  | nil =>
    have : (q == '\\') = false := by simpa using hq
    simp [tokenizeAux, this]
  | cons c body ih =>
    obtain ⟨h1, h2⟩ := hb c (List.mem_cons_self ..)
    have h1' : (c == q) = false := by simpa using h1
    have h2' : (c == '\\') = false := by simpa using h2
    have ih := ih (c :: cur) (fun y hy => hb y (List.mem_cons_of_mem _ hy))
    simp only [List.cons_append, tokenizeAux, h1', h2', Bool.false_eq_true, if_false]
    rw [ih]; simp

theorem tokenizeAux_quoted {q : Char} {body : List Char} (rest : List Char) (acc : List String) (hq : isQuote q = true)
    (hb : ∀ c ∈ body, c ≠ q ∧ c ≠ '\\') :
    tokenizeAux none (q :: body ++ q :: rest) [] acc
      = tokenizeAux none rest [] (String.ofList (q :: body ++ [q]) :: acc) := by
  have := tokenizeAux_inside rest [q] acc (isQuote_ne_backslash hq) hb
  simp only [List.cons_append, tokenizeAux, beq_false_of_class hq (d := ';') rfl, hq, List.isEmpty_nil, if_true,
    Bool.false_eq_true, if_false]
  rw [this]; simp

theorem tokenizeAux_acc_aux (m : QMode) (l cur : List Char) (acc : List String) :
    ∀ acc', tokenizeAux m l cur (acc ++ acc') = acc'.reverse ++ tokenizeAux m l cur acc := by
  -- flushing the current word commutes with what lies below on the stack
  have flush : ∀ (cur : List Char) (acc acc' : List String),
      (if cur.isEmpty then acc ++ acc' else String.ofList cur.reverse :: (acc ++ acc')) =
        (if cur.isEmpty then acc else String.ofList cur.reverse :: acc) ++ acc' := by
    intro cur acc acc'; split <;> rfl
  -- one step of the scanner, `flush` (among `*`), the induction hypothesis
  fun_induction tokenizeAux m l cur acc <;> intro acc' <;>
    simp only [tokenizeAux, *, if_true, if_false, Bool.false_eq_true, List.reverse_append]
  -- left over: the arms that flush (the `flush` of the definition stands unreduced in their hypotheses)
  case case2 => rfl
  case case3 ih => exact ih acc'
  case case4 ih => exact ih acc'
  case case5 ih => exact ih acc'
  case case9 ih => exact ih acc'

theorem tokenizeAux_acc (m : QMode) (l cur : List Char) (acc : List String) :
    tokenizeAux m l cur acc = acc.reverse ++ tokenizeAux m l cur [] := by
  simpa using tokenizeAux_acc_aux m l cur [] acc

theorem Char.eq_of_toLower_eq {c d : Char} (hd : d.val < 'a'.val ∨ d.val > 'z'.val)
    (h : c.toLower = d) : c = d := by
  unfold Char.toLower at h
  split at h
  · -- an upper-case letter is folded into `'a' … 'z'`
    rename_i hc
    have hv : d.val = c.val + 32 := by rw [← h]; rfl
    simp only [hv, Char.reduceVal, UInt32.lt_iff_toNat_lt, UInt32.le_iff_toNat_le, ge_iff_le, gt_iff_lt,
      UInt32.toNat_add, UInt32.reduceToNat] at hc hd
    omega
  · exact h

/-- a one-character token that is no lower-case letter is its own only preimage under case folding -/
theorem canonTok_eq_single {v : Vocab} {x : String} (d : Char)
    (hd : d.val < 'a'.val ∨ d.val > 'z'.val) (h : canonTok v x = String.ofList [d]) :
    x = String.ofList [d] := by
  unfold canonTok at h
  split at h
  · have h' := congrArg String.toList h
    rw [String.toLower, String.toList_map, String.toList_ofList] at h'
    obtain ⟨c, hx, hc⟩ := List.map_eq_singleton_iff.mp h'
    rw [← String.ofList_toList (s := x), hx, Char.eq_of_toLower_eq hd hc]
  · exact h

theorem splitStmts_acc_aux (v : Vocab) (ts cur : List String) (acc : List (List String)) :
    ∀ acc', splitStmts v ts cur (acc ++ acc') = acc'.reverse ++ splitStmts v ts cur acc := by
  fun_induction splitStmts v ts cur acc <;> intro acc'
  case case1 => simp only [splitStmts]; split <;> simp
  case case2 h ih => rw [splitStmts, if_pos h, ← List.cons_append, ih]
  case case3 h ih => rw [splitStmts, if_neg h, ← List.cons_append, ← List.cons_append, ih]
  case case4 hne h ih => rw [splitStmts.eq_3 _ _ _ _ _ hne, if_pos h, ← List.cons_append, ih]
  case case5 hne h ih => rw [splitStmts.eq_3 _ _ _ _ _ hne, if_neg h, ih]

theorem splitStmts_acc (v : Vocab) (ts cur : List String) (acc : List (List String)) :
    splitStmts v ts cur acc = acc.reverse ++ splitStmts v ts cur [] := by
  simpa using splitStmts_acc_aux v ts cur [] acc

/-- a mnemonic `m` behind a colon-free run `a`; `last`: the token the statement in progress ends with
    when `m` is reached -/
theorem splitStmts_compound_aux {v : Vocab} {a b : List String} {m : String}
    (hm : v.isMnemonic m = true) (hmc : m ≠ ":") (hnl : ∀ x ∈ a, x ≠ ":") (hb : b.head? ≠ some ":")
    (cur : List String) (acc : List (List String)) (last : String)
    (hlast : ((a.map (canonTok v)).reverse ++ cur).head? = some last) (h1 : last ≠ "[") (h2 : last ≠ "+") (h3 : last ≠ ",") :
    splitStmts v (a ++ m :: b) cur acc = splitStmts v a cur acc ++ splitStmts v (m :: b) [] [] := by
  have hbne : ∀ rest', b = ":" :: rest' → False := fun _ h => hb (h ▸ rfl)
  induction a generalizing cur acc with
  | nil =>
    -- `m` ends the statement in progress
    obtain _ | ⟨c, cur'⟩ := cur
    · cases hlast
    cases Option.some.inj hlast
    have k : ∀ {s : String}, last ≠ s → (some last == some s) = false := fun h => by simpa using h
    rw [List.nil_append, splitStmts.eq_3 _ _ _ _ _ hbne, splitStmts.eq_3 _ _ _ _ _ hbne]
    simp only [hm, List.head?_cons, k h1, k h2, k h3, Bool.true_or, List.isEmpty_cons, List.isEmpty_nil, Bool.not_false,
      Bool.not_true, Bool.and_self, Bool.and_false, Bool.false_and, Bool.false_eq_true, if_true, if_false, splitStmts.eq_1]
    rw [splitStmts_acc]
  | cons t a ih =>
    have hnl' : ∀ x ∈ a, x ≠ ":" := fun x hx => hnl x (List.mem_cons_of_mem _ hx)
    have hne1 : ∀ rest', a ++ m :: b = ":" :: rest' → False := by
      intro rest' h
      cases a with
      | nil => exact hmc (List.cons.inj h).1
      | cons y a => exact hnl' y (List.mem_cons_self ..) (List.cons.inj h).1
    have hne2 : ∀ rest', a = ":" :: rest' → False := fun _ h => hnl' ":" (h ▸ List.mem_cons_self ..) rfl
    rw [List.cons_append, splitStmts.eq_3 _ _ _ _ _ hne1, splitStmts.eq_3 _ _ _ _ _ hne2]
    rw [List.map_cons, List.reverse_cons, List.append_assoc] at hlast
    split
    · exact ih hnl' _ _ (by simpa only [List.head?_append, List.singleton_append, List.head?_cons] using hlast)
    · exact ih hnl' _ _ hlast

theorem splitStmts_compound {v : Vocab} {a b : List String} {m : String}
    (hm : v.isMnemonic m = true) (hmc : m ≠ ":")
    (ha : a ≠ []) (hlast : ∀ x, a.getLast? = some x → x ≠ "[" ∧ x ≠ "+" ∧ x ≠ ",")
    (hnl : ∀ x ∈ a, x ≠ ":") (hb : b.head? ≠ some ":") :
    splitStmts v (a ++ m :: b) [] [] = splitStmts v a [] [] ++ splitStmts v (m :: b) [] [] := by
  have hx := List.getLast?_eq_some_getLast ha
  obtain ⟨l1, l2, l3⟩ := hlast _ hx
  -- the splitter keeps the last token case-folded; the three tokens are their own only preimages
  exact splitStmts_compound_aux hm hmc hnl hb [] [] (canonTok v (a.getLast ha))
    (by rw [List.append_nil, List.head?_reverse, List.getLast?_map, hx]; rfl)
    (fun h => l1 (canonTok_eq_single '[' (by decide) h)) (fun h => l2 (canonTok_eq_single '+' (by decide) h))
    (fun h => l3 (canonTok_eq_single ',' (by decide) h))

end BV
