/-
  C20: the backtracking matcher on the generated word-list pattern `\bw1\b|\bw2\b|…`.  On a plain word
  each alternative `\bx\b` takes the whole word when `x` is that word up to the case mode, and nothing
  otherwise (`matchAt_wordRx`), so the alternation tests membership (`firstMatch_wordList`).
-/
import BespokeVerif.Model.Regex
import BespokeVerif.Lemmas.Basics
namespace BV

/-- what `charEq ci` compares -/
def caseKey (ci : Bool) (c : Char) : Char := if ci then c.toLower else c

theorem charEq_eq (ci : Bool) (a b : Char) : charEq ci a b = (caseKey ci a == caseKey ci b) := by
  cases ci <;> rfl

def wordEq (ci : Bool) (x w : List Char) : Prop := x.map (caseKey ci) = w.map (caseKey ci)

instance (ci : Bool) (x w : List Char) : Decidable (wordEq ci x w) :=
  inferInstanceAs (Decidable (_ = _))

theorem wordEq_true (x w : List Char) : wordEq true x w ↔ x.map Char.toLower = w.map Char.toLower :=
  Iff.rfl

theorem wordEq_false (x w : List Char) : wordEq false x w ↔ x = w := by
  show x.map (fun c => c) = w.map (fun c => c) ↔ _
  rw [List.map_id', List.map_id']

theorem matchLit_eq_some (ci : Bool) (s inp m rest : List Char) :
    matchLit ci s inp = some (m, rest) ↔ inp = m ++ rest ∧ wordEq ci s m := by
  unfold wordEq
  induction s generalizing inp m with
  | nil =>
    rw [matchLit, List.map_nil, eq_comm (a := []), List.map_eq_nil_iff]
    constructor
    · intro h
      cases h
      exact ⟨rfl, rfl⟩
    · rintro ⟨rfl, rfl⟩
      rfl
  | cons c cs ih =>
    rw [List.map_cons, eq_comm (a := _ :: _), List.map_eq_cons_iff]
    cases inp with
    | nil =>
      rw [matchLit]
      refine ⟨fun h => (nomatch h), ?_⟩
      rintro ⟨h, x, xs, rfl, -⟩
      cases h
    | cons x xs =>
      rw [matchLit, charEq_eq]
      constructor
      · intro h
        split at h
        · rename_i hc
          obtain ⟨⟨m', r'⟩, hm, heq⟩ := Option.map_eq_some_iff.1 h
          cases heq
          obtain ⟨rfl, hw⟩ := (ih xs m').1 hm
          exact ⟨rfl, x, m', rfl, (eq_of_beq hc).symm, hw.symm⟩
        · cases h
      · rintro ⟨h, y, m', rfl, hc, hw⟩
        rw [List.cons_append] at h
        cases h
        rw [if_pos (beq_iff_eq.2 hc.symm), (ih (m' ++ rest) m').2 ⟨rfl, hw.symm⟩]
        rfl

/-- `C20.PlainWord` on the character list: non-empty, word characters only -/
def PlainL (w : List Char) : Prop := w ≠ [] ∧ ∀ c ∈ w, isWordChar c = true

theorem matchAt_wordRx (ci : Bool) {x w : List Char} (hx : x ≠ []) (hw : PlainL w) :
    matchAt ci (.seq [.wordB, .lit x, .wordB]) none w =
      if wordEq ci x w then [(w.getLast?, [])] else [] := by
  obtain ⟨c, cs, rfl⟩ := List.exists_cons_of_ne_nil hw.1
  have hc : isWordChar c = true := hw.2 c (List.mem_cons_self ..)
  -- the opening `\b` holds in front of a word character
  have hb : isBoundary none (c :: cs).head? = true := by simp [isBoundary, hc]
  -- the literal takes the same word whole, so any other outcome of `matchLit` means another word
  have whole : wordEq ci x (c :: cs) → matchLit ci x (c :: cs) = some (c :: cs, []) :=
    fun h => (matchLit_eq_some ..).2 ⟨(List.append_nil _).symm, h⟩
  simp only [matchAt, matchSeq, matchCont, hb, if_true, List.append_nil]
  cases hm : matchLit ci x (c :: cs) with
  | none =>
    have : ¬ wordEq ci x (c :: cs) := fun h => by rw [whole h] at hm; cases hm
    simp [this, matchCont]
  | some mr =>
    obtain ⟨m, rest⟩ := mr
    obtain ⟨h1, hxm⟩ := (matchLit_eq_some ..).1 hm
    have hmne : m ≠ [] := fun h => hx (by rw [h] at hxm; exact List.map_eq_nil_iff.1 hxm)
    have hlw : isWordChar (m.getLast hmne) = true :=
      hw.2 _ (by rw [h1]; exact List.mem_append_left _ (List.getLast_mem hmne))
    simp only [matchCont, matchSeq, matchAt, List.getLast?_eq_some_getLast hmne, Option.orElse_some,
      List.append_nil]
    -- the closing `\b` comes after a word character: it holds iff nothing of the word is left
    cases rest with
    | nil =>
      rw [List.append_nil] at h1
      subst h1
      simp [isBoundary, hlw, hxm, List.getLast?_eq_some_getLast hmne, matchCont, matchSeq]
    | cons r rs =>
      have hr : isWordChar r = true := hw.2 r (by rw [h1]; simp)
      have : ¬ wordEq ci x (c :: cs) := fun h => by rw [whole h] at hm; cases hm
      simp [isBoundary, hlw, hr, this, matchCont]

theorem firstMatch_wordList (ci : Bool) {ws : List String} {w : String}
    (hws : ∀ x ∈ ws, PlainL x.toList) (hw : PlainL w.toList) :
    firstMatch ci (wordListRx ws) w.toList =
      if ws.any (fun x => decide (wordEq ci x.toList w.toList)) then some [] else none := by
  simp only [firstMatch, wordListRx, matchAt]
  induction ws with
  | nil => simp [matchAlt]
  | cons x ws ih =>
    have ih := ih (fun y hy => hws y (List.mem_cons_of_mem _ hy))
    simp only [List.map_cons, matchAlt, matchAt_wordRx ci (hws x List.mem_cons_self).1 hw, List.any_cons]
    by_cases h : wordEq ci x.toList w.toList
    · simp [h]
    · simp only [h, if_false, List.nil_append, decide_false, Bool.false_or]
      exact ih

theorem takesWhole_wordList (ci : Bool) {ws : List String} {w : String}
    (hws : ∀ x ∈ ws, PlainL x.toList) (hw : PlainL w.toList) :
    takesWhole ci (wordListRx ws) w = ws.any (fun x => decide (wordEq ci x.toList w.toList)) := by
  rw [takesWhole, firstMatch_wordList ci hws hw]
  cases ws.any (fun x => decide (wordEq ci x.toList w.toList)) <;> simp

theorem firstMatch_isSome_wordList (ci : Bool) {ws : List String} {w : String}
    (hws : ∀ x ∈ ws, PlainL x.toList) (hw : PlainL w.toList) :
    (firstMatch ci (wordListRx ws) w.toList).isSome = takesWhole ci (wordListRx ws) w := by
  rw [takesWhole_wordList ci hws hw, firstMatch_wordList ci hws hw]
  cases ws.any (fun x => decide (wordEq ci x.toList w.toList)) <;> simp

theorem contains_toLower_iff (ws : List String) (w : String) :
    (ws.map String.toLower).contains w.toLower =
      ws.any (fun x => decide (wordEq true x.toList w.toList)) := by
  have key (x : String) : x.toLower = w.toLower ↔ wordEq true x.toList w.toList := by
    rw [← String.toList_inj, String.toLower, String.toLower, String.toList_map, String.toList_map]
    exact Iff.rfl
  rw [Bool.eq_iff_iff]
  simp only [List.contains_iff_mem, List.mem_map, List.any_eq_true, decide_eq_true_eq, key]

theorem contains_iff_cs (ws : List String) (w : String) :
    ws.contains w = ws.any (fun x => decide (wordEq false x.toList w.toList)) := by
  rw [Bool.eq_iff_iff]
  simp only [List.contains_iff_mem, List.any_eq_true, decide_eq_true_eq, wordEq_false, String.toList_inj,
    exists_eq_right]

theorem classifySpec_eq_any (i m r p : List String) (w : String) :
    classifySpec i m r p w =
      if i.any (fun x => decide (wordEq true x.toList w.toList)) then .instruction
      else if m.any (fun x => decide (wordEq true x.toList w.toList)) then .macro
      else if r.any (fun x => decide (wordEq true x.toList w.toList)) then .register
      else if p.any (fun x => decide (wordEq false x.toList w.toList)) then .predefined
      else .none := by
  rw [classifySpec, contains_toLower_iff, contains_toLower_iff, contains_toLower_iff, contains_iff_cs]

theorem ite_then_ite {α} (c : Prop) [Decidable c] (a b d : α) :
    (if c then (if c then a else b) else d) = if c then a else d := by
  split <;> rfl

theorem sortByLenDesc_eq (ws : List String) :
    sortByLenDesc ws = ws.foldr (insertBy fun a b => b.length ≤ a.length) [] := by
  rw [sortByLenDesc, insertBy_unique (ins := insertByLen) (fun a b : String => b.length ≤ a.length)
    (fun _ => rfl) fun _ _ _ => rfl]

theorem sortByLenDesc_perm (l : List String) : (sortByLenDesc l).Perm l := by
  rw [sortByLenDesc_eq]; exact sortBy_perm _ l

theorem mem_sortByLenDesc {l : List String} (x : String) : x ∈ sortByLenDesc l ↔ x ∈ l :=
  (sortByLenDesc_perm l).mem_iff

theorem classifySpec_perm {i i' m m' r r' p p' : List String} {w : String}
    (hi : ∀ x, x ∈ i' ↔ x ∈ i) (hm : ∀ x, x ∈ m' ↔ x ∈ m) (hr : ∀ x, x ∈ r' ↔ x ∈ r) (hp : ∀ x, x ∈ p' ↔ x ∈ p) :
    classifySpec i' m' r' p' w = classifySpec i m r p w := by
  simp only [classifySpec, List.contains_eq_mem, List.mem_map, hi, hm, hr, hp]

end BV
