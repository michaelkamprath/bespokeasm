/-
  C17 (`#include`): directory search and de-duplication; the invariants of the reader `readFile`, all of them through
  one relation, `Reads`: what a successful run does to the list of opened files and to the zone table, and how it
  tags the lines it adds.  The reader's own equations are Lean's `readFile.go.eq_1` (no statement left), `eq_2`
  (a conditional directive) and `eq_3` (any other statement).
-/
import BespokeVerif.Model.Layout
import BespokeVerif.Model.Include
import BespokeVerif.Lemmas.Basics
namespace BV

/-- the loop only counts hits: none, one (remembered), more than one (error) -/
theorem locateLoop_eq (present : String → Bool) (dirs : List String) (found : Option String) :
    locateLoop present dirs found =
      match found.toList ++ dirs.filter present with
      | [] => .ok none
      | [d] => .ok (some d)
      | _ :: _ :: _ => .error .includeError := by
  induction dirs generalizing found with
  | nil => cases found <;> rfl
  | cons d rest ih =>
    unfold locateLoop
    cases hd : present d with
    | false =>
      rw [if_neg Bool.false_ne_true, ih, List.filter_cons_of_neg (by rw [hd]; exact Bool.false_ne_true)]
    | true =>
      rw [if_pos rfl, List.filter_cons_of_pos hd]
      cases found with
      | none => exact ih _
      | some x => rfl

theorem locate_eq_filter (present : String → Bool) (dirs : List String) :
    locate present dirs =
      match dirs.filter present with
      | [d] => .ok d
      | _ => .error .includeError := by
  unfold locate
  rw [locateLoop_eq]
  rcases dirs.filter present with _ | ⟨a, _ | ⟨b, t⟩⟩ <;> rfl

theorem locate_ok_iff_filter (present : String → Bool) (dirs : List String) (d : String) :
    locate present dirs = .ok d ↔ dirs.filter present = [d] := by
  rw [locate_eq_filter]
  rcases hf : dirs.filter present with _ | ⟨a, _ | ⟨b, t⟩⟩ <;> simp

/-- no `Nodup` needed: with two or more hits both sides are the "found multiple times" error whatever the order -/
theorem locate_perm' (present : String → Bool) {dirs dirs' : List String} (hp : dirs.Perm dirs') :
    locate present dirs' = locate present dirs := by
  have hf : (dirs.filter present).Perm (dirs'.filter present) := hp.filter _
  rw [locate_eq_filter, locate_eq_filter]
  rcases h1 : dirs.filter present with _ | ⟨a, _ | ⟨b, t⟩⟩ <;> rw [h1] at hf
  · rw [List.nil_perm.1 hf]
  · rw [List.singleton_perm.1 hf]
  · rcases h2 : dirs'.filter present with _ | ⟨a', _ | ⟨b', t'⟩⟩
    · rfl
    · rw [h2] at hf; cases hf.length_eq
    · rfl

theorem dedupDirs_mem' (real : String → String) (dirs : List String) (p : String) :
    p ∈ dedupDirs real dirs ↔ ∃ d ∈ dirs, real d = p := by
  induction dirs with
  | nil => simp [dedupDirs]
  | cons d rest ih =>
    rw [dedupDirs]
    simp only [List.mem_cons, exists_eq_or_imp]
    split
    · rename_i h
      obtain ⟨e, he, hre⟩ := List.any_eq_true.1 h
      rw [ih]
      exact ⟨.inr, fun h => h.elim (fun hd => ⟨e, he, (beq_iff_eq.1 hre).trans hd⟩) id⟩
    · rw [List.mem_cons, ih, eq_comm]

theorem dedupDirs_nodup' (real : String → String) (dirs : List String) : (dedupDirs real dirs).Nodup := by
  induction dirs with
  | nil => exact List.nodup_nil
  | cons d rest ih =>
    unfold dedupDirs
    split
    · exact ih
    · rename_i h
      refine List.nodup_cons.2 ⟨fun hm => h ?_, ih⟩
      obtain ⟨e, he, hre⟩ := (dedupDirs_mem' ..).1 hm
      exact List.any_eq_true.2 ⟨e, he, beq_iff_eq.2 hre⟩

theorem dedupDirs_perm' (real : String → String) {dirs dirs' : List String} (hp : dirs.Perm dirs') :
    (dedupDirs real dirs).Perm (dedupDirs real dirs') := by
  refine (List.perm_ext_iff_of_nodup (dedupDirs_nodup' real dirs) (dedupDirs_nodup' real dirs')).2 fun p => ?_
  simp only [dedupDirs_mem', hp.mem_iff]

/-- A successful run of the reader inside file `f`, with everything forgotten that the invariants
    below do not need: it appends `ls` and takes the state from `st` to `st'`.  A statement of `f`
    adds a line tagged with `f` and a scope of `f`, leaves `used` alone and changes the zone table
    by `createZone` at most; an `#include` opens a file not opened before and runs inside it. -/
inductive Reads (cfg : Cfg) : Nat → ReadSt → List Line → ReadSt → Prop
  | done (f st) : Reads cfg f st [] st
  | line {f st st1 l ls st'} : l.file = f → l.scope.fileId = f → st1.used = st.used →
      (st1.zones = st.zones ∨ ∃ n s e, createZone cfg.bits st.zones n s e = .ok st1.zones) →
      Reads cfg f st1 ls st' → Reads cfg f st (l :: ls) st'
  | incl {f g st ls1 st1 ls st'} : g ∉ st.used →
      Reads cfg g { st with used := st.used ++ [g] } ls1 st1 → Reads cfg f st1 ls st' →
      Reads cfg f st (ls1 ++ ls) st'

theorem go_cons_off {cfg : Cfg} {files : List (List Stmt)} {fuel f : Nat} {s0 : Stmt} {rest : List Stmt}
    {sc : Scope} {zone : String} {mute : Nat} {cs : CondStack} {st : ReadSt} {acc : List Line}
    (hs0 : ∀ d, s0 = .cond d → False) (hact : cs.active = false) :
    readFile.go cfg files fuel f (s0 :: rest) sc zone mute cs st acc =
      readFile.go cfg files fuel f rest sc zone mute cs st acc := by
  rw [readFile.go.eq_3 _ _ _ _ _ _ _ _ _ _ _ _ hs0, hact]
  rfl

/-- `IH`: `readFile_reads` at the fuel of the recursive call -/
theorem go_reads {cfg : Cfg} {files : List (List Stmt)} {fuel : Nat} (f : Nat)
    (IH : ∀ {g st ls st'}, readFile cfg files fuel g st = .ok (ls, st') →
      g ∉ st.used ∧ Reads cfg g { st with used := st.used ++ [g] } ls st')
    {stmts : List Stmt} {sc : Scope} {zone : String} {mute : Nat} {cs : CondStack} {st : ReadSt}
    {acc ls : List Line} {st' : ReadSt} (hsc : sc.fileId = f)
    (h : readFile.go cfg files fuel f stmts sc zone mute cs st acc = .ok (ls, st')) :
    ∃ new, ls = acc ++ new ∧ Reads cfg f st new st' := by
  induction stmts generalizing sc zone mute cs st acc ls st' with
  | nil =>
    rw [readFile.go.eq_1] at h
    cases h
    exact ⟨[], (List.append_nil acc).symm, .done f st⟩
  | cons s0 rest ih =>
    -- a statement that adds the line `l` and goes on in scope `sc'` and state `st1`
    have step : ∀ {sc' : Scope} {z' : String} {m' : Nat} {cs' : CondStack} {st1 : ReadSt} {l : Line},
        readFile.go cfg files fuel f rest sc' z' m' cs' st1 (acc ++ [l]) = .ok (ls, st') →
        sc'.fileId = f → l.scope = sc' → l.file = f → st1.used = st.used →
        (st1.zones = st.zones ∨ ∃ n s e, createZone cfg.bits st.zones n s e = .ok st1.zones) →
        ∃ new, ls = acc ++ new ∧ Reads cfg f st new st' := by
      intro sc' z' m' cs' st1 l h5 h1 h2 h3 h4 hz
      obtain ⟨new, hn1, hn2⟩ := ih h1 h5
      exact ⟨l :: new, hn1.trans (List.append_assoc acc [l] new), .line h3 (h2 ▸ h1) h4 hz hn2⟩
    -- a conditional directive; or skipped; or substituted and then examined by kind
    by_cases hc : ∃ d, s0 = .cond d
    · obtain ⟨d, rfl⟩ := hc
      rw [readFile.go.eq_2] at h
      obtain ⟨cs', _, h2⟩ := bind_eq_ok h
      exact ih hsc h2
    cases hact : cs.active with
    | false =>
      rw [go_cons_off (fun d hd => hc ⟨d, hd⟩) hact] at h
      exact ih hsc h
    | true =>
      rw [readFile.go.eq_3 _ _ _ _ _ _ _ _ _ _ _ _ fun d hd => hc ⟨d, hd⟩, hact,
        if_neg (show ¬ (!true) = true from Bool.false_ne_true)] at h
      split at h
      · cases h
      rename_i s hs
      clear hs
      cases s
      case define n v =>
        obtain ⟨syms, _, h2⟩ := bind_eq_ok h
        exact step h2 hsc rfl rfl rfl (.inl rfl)
      case includeFile g =>
        obtain ⟨⟨ls1, st1⟩, hr, h2⟩ := bind_eq_ok h
        obtain ⟨hI1, hI2⟩ := IH hr
        obtain ⟨new, hn1, hn2⟩ := ih hsc h2
        exact ⟨ls1 ++ new, hn1.trans (List.append_assoc ..), .incl hI1 hI2 hn2⟩
      case label name =>
        obtain ⟨-, h⟩ := ite_error_eq_ok h
        split at h
        · exact step h rfl rfl rfl rfl (.inl rfl)
        · exact step h hsc rfl rfl rfl (.inl rfl)
      case const name e =>
        obtain ⟨-, h⟩ := ite_error_eq_ok h
        split at h
        · cases h
        · obtain ⟨L, _, h2⟩ := bind_eq_ok h
          exact step h2 hsc rfl rfl rfl (.inl rfl)
      case org | memzone =>
        obtain ⟨-, h⟩ := ite_error_eq_ok h
        exact step h rfl rfl rfl rfl (.inl rfl)
      case createZone name zs ze =>
        obtain ⟨zs, hz, h2⟩ := bind_eq_ok h
        exact step h2 hsc rfl rfl rfl (.inr ⟨_, _, _, hz⟩)
      -- every other statement only adds its line
      all_goals exact step h hsc rfl rfl rfl (.inl rfl)

theorem readFile_reads {cfg : Cfg} {files : List (List Stmt)} {fuel f : Nat} {st : ReadSt} {ls : List Line}
    {st' : ReadSt} (h : readFile cfg files fuel f st = .ok (ls, st')) :
    f ∉ st.used ∧ Reads cfg f { st with used := st.used ++ [f] } ls st' := by
  induction fuel generalizing f st ls st' with
  | zero => rw [readFile.eq_1] at h; cases h
  | succ fuel ihf =>
    rw [readFile.eq_2] at h
    obtain ⟨hnot, h⟩ := ite_error_eq_ok h
    split at h
    · cases h
    · obtain ⟨new, hn1, hn2⟩ := go_reads f ihf rfl h
      rw [List.nil_append] at hn1
      subst hn1
      exact ⟨by simpa using hnot, hn2⟩

theorem Reads.zones {cfg : Cfg} (P : Zones → Prop)
    (hP : ∀ {zs name s e zs'}, createZone cfg.bits zs name s e = .ok zs' → P zs → P zs')
    {f st ls st'} (h : Reads cfg f st ls st') : P st.zones → P st'.zones := by
  induction h with
  | done => exact id
  | line _ _ _ hz _ ih =>
    intro hp
    rcases hz with hz | ⟨n, s, e, hz⟩
    · exact ih (hz ▸ hp)
    · exact ih (hP hz hp)
  | incl _ _ _ ih1 ih2 => exact fun hp => ih2 (ih1 hp)

theorem Reads.used {cfg : Cfg} (P : List Nat → Prop) (hP : ∀ {used f}, f ∉ used → P used → P (used ++ [f]))
    {f st ls st'} (h : Reads cfg f st ls st') : P st.used → P st'.used := by
  induction h with
  | done => exact id
  | line _ _ hu _ _ ih => exact fun hp => ih (hu ▸ hp)
  | incl hg _ _ ih1 ih2 => exact fun hp => ih2 (ih1 (hP hg hp))

theorem Reads.used_subset {cfg : Cfg} {f st ls st'} (h : Reads cfg f st ls st') : st.used ⊆ st'.used :=
  h.used (st.used ⊆ ·) (fun _ hs _ hk => List.mem_append_left _ (hs hk)) (List.Subset.refl _)

theorem Reads.tagged {cfg : Cfg} {f st ls st'} (h : Reads cfg f st ls st') :
    ∀ ln ∈ ls, ln.scope.fileId = ln.file ∧ (ln.file = f ∨ ln.file ∉ st.used) := by
  induction h with
  | done => simp
  | line hf hs hu _ _ ih =>
    intro ln hln
    rcases List.mem_cons.1 hln with rfl | hln
    · exact ⟨hs.trans hf.symm, .inl hf⟩
    · exact hu ▸ ih ln hln
  | incl hg h1 _ ih1 ih2 =>
    intro ln hln
    rcases List.mem_append.1 hln with hln | hln
    · refine ⟨(ih1 ln hln).1, .inr ?_⟩
      rcases (ih1 ln hln).2 with h3 | h3
      · exact h3 ▸ hg
      · exact fun hm => h3 (List.mem_append_left _ hm)
    · -- a line read after the include is not from a file in `st1.used`, hence not from one in the smaller `st.used`
      exact ⟨(ih2 ln hln).1, (ih2 ln hln).2.imp_right fun h3 hm =>
        h3 (h1.used_subset (List.mem_append_left _ hm))⟩

/-- the line `mk sc zone (mute > 0)` that `readFile.go` makes of the statement `s` -/
def payloadLine (f : Nat) (sc : Scope) (zone : String) (mute : Nat) (s : Stmt) : Line :=
  { stmt := s, scope := sc, zone := zone, muted := decide (mute > 0), file := f }

end BV
