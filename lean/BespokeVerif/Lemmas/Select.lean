/-
  Variant and operand selection (C13): the three selection loops as one "first alternative that does not
  decline", and what `matchVariant` and `accepts` do on the inputs the property speaks of.
-/
import BespokeVerif.Model.Select
import BespokeVerif.Lemmas.Basics
namespace BV

theorem sortByRank_eq {α : Type} (rank : α → Nat) (l : List α) :
    sortByRank rank l = l.foldr (insertBy fun a b => rank a ≤ rank b) [] := by
  rw [sortByRank, insertBy_unique (ins := sortByRank.insertByRank' rank) (fun a b => rank a ≤ rank b)
    (fun _ => rfl) fun _ _ _ => rfl]

/-- `selectVariant`, `selectMacro.go` and `firstAccept` are this loop over different alternatives -/
def firstOk {α β : Type} (f : α → Acc β) : List α → Nat → Acc (Nat × α × β)
  | [], _ => .decline
  | x :: xs, i =>
    match f x with
    | .ok b => .ok (i, x, b)
    | .hard => .hard
    | .decline => firstOk f xs (i + 1)

theorem firstOk_ok {α β : Type} {f : α → Acc β} {l : List α} {i j : Nat} {x : α} {b : β}
    (h : firstOk f l i = .ok (j, x, b)) :
    ∃ pre post, l = pre ++ x :: post ∧ j = i + pre.length ∧ (∀ u ∈ pre, f u = .decline) ∧ f x = .ok b := by
  induction l generalizing i with
  | nil => cases h
  | cons u us ih =>
    rw [firstOk] at h
    split at h
    · next q hu =>
      cases h
      exact ⟨[], us, rfl, rfl, fun _ h => absurd h List.not_mem_nil, hu⟩
    · cases h
    · next hu =>
      obtain ⟨pre, post, hl, hj, hpre, hv⟩ := ih h
      exact ⟨u :: pre, post, by rw [hl]; rfl, by rw [hj, List.length_cons]; omega,
        List.forall_mem_cons.mpr ⟨hu, hpre⟩, hv⟩

theorem firstOk_decline_iff {α β : Type} (f : α → Acc β) (l : List α) (i : Nat) :
    firstOk f l i = .decline ↔ ∀ v ∈ l, f v = .decline := by
  induction l generalizing i with
  | nil => simp [firstOk]
  | cons u us ih =>
    simp only [firstOk, List.mem_cons, forall_eq_or_imp]
    cases hu : f u with
    | ok q => simp
    | hard => simp
    | decline => simpa using ih (i + 1)

theorem firstAccept_eq_firstOk (regs : List String) (gz : Int × Int) (f : Form) (l : List (String × OperandCfg))
    (i : Nat) :
    firstAccept regs gz f l = match firstOk (fun x => accepts regs gz x.1 x.2 f) l i with
      | .ok (_, _, p) => .ok p
      | .hard => .hard
      | .decline => .decline := by
  induction l generalizing i with
  | nil => rfl
  | cons x xs ih =>
    rw [firstAccept, firstOk, ih (i + 1)]
    cases accepts regs gz x.1 x.2 f <;> rfl

theorem firstAccept_ok {regs : List String} {gz : Int × Int} {f : Form} {l : List (String × OperandCfg)}
    {p : ParsedOp} (h : firstAccept regs gz f l = .ok p) :
    ∃ pre x post, l = pre ++ x :: post ∧ accepts regs gz x.1 x.2 f = .ok p ∧
      ∀ y ∈ pre, accepts regs gz y.1 y.2 f = .decline := by
  rw [firstAccept_eq_firstOk regs gz f l 0] at h
  split at h
  · next j x q hr =>
    cases h
    obtain ⟨pre, post, hl, -, hpre, hx⟩ := firstOk_ok hr
    exact ⟨pre, x, post, hl, hx, hpre⟩
  · cases h
  · cases h

theorem selectVariant_eq_firstOk (regs : List String) (gz : Int × Int) (vs : List VariantCfg) (fs : List Form)
    (i : Nat) : selectVariant regs gz vs fs i = firstOk (matchVariant regs gz · fs) vs i := by
  induction vs generalizing i with
  | nil => rfl
  | cons v vs ih =>
    rw [selectVariant, firstOk, ih]
    cases matchVariant regs gz v fs <;> rfl

theorem selectVariant_ok {regs : List String} {gz : Int × Int} {vs : List VariantCfg} {fs : List Form} {i j : Nat}
    {v : VariantCfg} {m : Matched} (h : selectVariant regs gz vs fs i = .ok (j, v, m)) :
    ∃ pre post, vs = pre ++ v :: post ∧ j = i + pre.length ∧
      (∀ u ∈ pre, matchVariant regs gz u fs = .decline) ∧ matchVariant regs gz v fs = .ok m :=
  firstOk_ok (selectVariant_eq_firstOk regs gz vs fs i ▸ h)

theorem selectVariant_decline_iff {regs : List String} {gz : Int × Int} {vs : List VariantCfg} {fs : List Form} {i : Nat} :
    selectVariant regs gz vs fs i = .decline ↔ ∀ v ∈ vs, matchVariant regs gz v fs = .decline := by
  rw [selectVariant_eq_firstOk]
  exact firstOk_decline_iff _ vs i

/-- a variant with an `operands` section, offered anything but "no operands for count 0": the
    explicitly listed combinations decide unless they decline -/
theorem matchVariant_count {regs : List String} {gz : Int × Int} {v : VariantCfg} {fs : List Form} {count : Nat}
    (hc : v.count = some count) (hne : ¬ (count = 0 ∧ fs = [])) :
    matchVariant regs gz v fs =
      match matchSpecific regs gz count v.specific fs with
      | .ok m => .ok m
      | .hard => .hard
      | .decline =>
        match v.sets with
        | none => .decline
        | some sc =>
          if fs.length ≠ sc.sets.length then .decline
          else match matchSets regs gz sc.sets fs with
            | .ok ps =>
              if sc.disallowed.contains (ps.map (·.id)) then .decline
              else .ok { ops := ps, revArgs := sc.revArgs, revCodes := sc.revCodes }
            | .hard => .hard
            | .decline => .decline := by
  have hne' : (decide (count = 0) && fs.isEmpty) = false := by
    cases fs with
    | nil => simpa using hne
    | cons a b => exact Bool.and_false _
  unfold matchVariant
  rw [hc]
  exact if_neg (ne_true_of_eq_false hne')

/-! `simp only [accepts]` would first generate the equation lemmas of the whole match; the instances
needed here hold by `rfl`. -/

theorem accepts_plain_of_hasReg {regs : List String} (gz : Int × Int) (id : String) {c : OperandCfg} {e : E}
    (hc : match c with
          | .numeric .. | .address .. | .relAddr .. | .numBytecode .. => True
          | _ => False)
    (h : hasReg regs e = true) : accepts regs gz id c (.plain e) = .decline := by
  cases c with
  | numeric code arg va => exact if_pos h
  | address code arg zs ze sl => exact if_pos h
  | relAddr code arg mn mx fe cu =>
    show (if cu = true then Acc.decline else if hasReg regs e = true then .decline else _) = _
    rw [if_pos h, ite_self]
  | numBytecode size pos mn mx => exact if_pos h
  | _ => exact hc.elim

theorem accepts_indNum_of_hasReg {regs : List String} (gz : Int × Int) (id : String) (code : Option CodeCfg)
    (arg : ArgCfg) {e : E} (h : hasReg regs e = true) :
    accepts regs gz id (.indNum code arg) (.ind e) = .decline := by
  show (if (!bracketOk e) = true then Acc.decline else if hasReg regs e = true then .decline else _) = _
  rw [if_pos h, ite_self]

theorem accepts_register_plain_label (regs gz id r code pre post s) :
    accepts regs gz id (.register r code pre post) (.plain (.label s)) =
    if pre == "" && post == "" && eqIgnoreCase s r then .ok { id := id, code := code.map codeField, arg := none }
    else .decline := rfl

end BV
