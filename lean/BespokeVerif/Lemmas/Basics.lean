/-
  Facts shared by several properties: inversion of `Except` computations (`bind_eq_ok`, `ite_error_eq_ok`) and
  `Errs` (which errors an `Except` can return), the stable insertion sort of which the model's three sorts are
  instances, and the arithmetic of `bitAt` / `byteAt` (`Model/Basic`) that C01, C07 and C11 share.
-/
import BespokeVerif.Model.Basic
namespace BV

instance instDecidableEqExcept {ε α} [DecidableEq ε] [DecidableEq α] : DecidableEq (Except ε α)
  | .ok a, .ok b =>
    if h : a = b then isTrue (by rw [h]) else isFalse (fun h' => h (Except.ok.inj h'))
  | .error a, .error b =>
    if h : a = b then isTrue (by rw [h]) else isFalse (fun h' => h (Except.error.inj h'))
  | .ok _, .error _ => isFalse (fun h => nomatch h)
  | .error _, .ok _ => isFalse (fun h => nomatch h)

theorem beq_false_of_class {p : Char → Bool} {c d : Char} (hc : p c = true) (hd : p d = false) : (c == d) = false :=
  beq_false_of_ne (ne_of_apply_ne p (by rw [hc, hd]; decide))

theorem takeWhile_all {α} {p : α → Bool} {l : List α} (h : ∀ c ∈ l, p c = true) :
    l.takeWhile p = l := by
  have := List.takeWhile_append_of_pos (l₂ := []) h
  rwa [List.append_nil, List.takeWhile_nil, List.append_nil] at this

theorem dropWhile_all {α} {p : α → Bool} {l : List α} (h : ∀ c ∈ l, p c = true) :
    l.dropWhile p = [] := by
  have := List.dropWhile_append_of_pos (l₂ := []) h
  rwa [List.append_nil] at this

theorem takeWhile_append_stop {α} {p : α → Bool} {w rest : List α} (hw : ∀ c ∈ w, p c = true)
    (hr : ∀ c, rest.head? = some c → p c = false) :
    (w ++ rest).takeWhile p = w ∧ (w ++ rest).dropWhile p = rest := by
  rw [List.takeWhile_append_of_pos hw, List.dropWhile_append_of_pos hw]
  cases rest with
  | nil => simp
  | cons c r => simp [hr c rfl]

theorem takeWhile_append_cons_stop {α} (p : α → Bool) (y r : List α) (c : α) (hc : p c = false) :
    (y ++ c :: r).takeWhile p = y.takeWhile p := by
  induction y with
  | nil => simp [hc]
  | cons a y ih => by_cases ha : p a <;> simp [ha, ih]

theorem drop_takeWhile_length {α} (p : α → Bool) (l : List α) : l.drop (l.takeWhile p).length = l.dropWhile p := by
  induction l with
  | nil => rfl
  | cons c l ih =>
    by_cases h : p c <;> simp [h, ih]

/-! `Except.bind` / `Except.map` in `>>=` form, so that core's monad laws (`bind_assoc`, `pure_bind`) apply -/
theorem bind_eq {ε α β} (x : Except ε α) (f : α → Except ε β) : x.bind f = x >>= f := rfl
theorem ok_bind {ε α β} (a : α) (f : α → Except ε β) : (Except.ok a : Except ε α) >>= f = f a := rfl
theorem map_eq {ε α β} (f : α → β) (x : Except ε α) : x.map f = x >>= fun a => pure (f a) := by
  cases x <;> rfl

theorem bind_eq_ok {ε α β : Type} {x : Except ε α} {f : α → Except ε β} {b : β}
    (h : x >>= f = .ok b) : ∃ a, x = .ok a ∧ f a = .ok b := by
  cases x with
  | error e => cases h
  | ok a => exact ⟨a, rfl, h⟩

theorem ite_error_eq_ok {ε α : Type} {c : Prop} [Decidable c] {e : ε} {x : Except ε α} {a : α}
    (h : (if c then .error e else x) = .ok a) : ¬ c ∧ x = .ok a := by
  split at h
  · cases h
  · exact ⟨‹_›, h⟩

/-- Every error `x` can return satisfies `P`. Proved by walking the definition of `x` arm by arm: `ok`, `error`,
    `bind`, `ite`, `mapM` below, one for each way the model builds an `Except`. -/
def Errs {ε α} (P : ε → Prop) (x : Except ε α) : Prop := ∀ e, x = .error e → P e

theorem Errs.ok {ε α} {P : ε → Prop} (a : α) : Errs P (.ok a) := fun _ h => nomatch h

theorem Errs.error {ε α} {P : ε → Prop} {e : ε} (h : P e) : Errs P (.error e : Except ε α) :=
  fun _ he => Except.error.inj he ▸ h

theorem Errs.bind {ε α β} {P : ε → Prop} {x : Except ε α} {g : α → Except ε β}
    (hx : Errs P x) (hg : ∀ a, x = .ok a → Errs P (g a)) : Errs P (x >>= g) := by
  cases x with
  | error e => exact fun e' h => hx e' (congrArg Except.error (Except.error.inj h))
  | ok a => exact hg a rfl

theorem Errs.ite {ε α} {P : ε → Prop} {c : Prop} [Decidable c] {x y : Except ε α}
    (hx : c → Errs P x) (hy : ¬c → Errs P y) : Errs P (if c then x else y) :=
  iteInduction hx hy

theorem Errs.mapM {ε α β} {P : ε → Prop} {f : α → Except ε β} {l : List α} (h : ∀ a ∈ l, Errs P (f a)) :
    Errs P (l.mapM f) := by
  induction l with
  | nil => exact .ok _
  | cons a l ih =>
    rw [List.mapM_cons]
    exact (h a (List.mem_cons_self ..)).bind fun b _ =>
      (ih fun x hx => h x (List.mem_cons_of_mem _ hx)).bind fun bs _ => .ok _

theorem Errs.mono {ε α} {P Q : ε → Prop} {x : Except ε α} (h : Errs P x) (hPQ : ∀ e, P e → Q e) : Errs Q x :=
  fun e he => hPQ e (h e he)

/-- the form in which the end results say that an error does not occur -/
theorem Errs.ne {ε α} {c : ε} {x : Except ε α} (h : Errs (· ≠ c) x) : x ≠ .error c := fun hx => h c hx rfl

theorem mapM_ok_map {ε α β γ : Type} {F : α → Except ε β} {g : β → γ} {g' : α → γ}
    (hF : ∀ {a b}, F a = .ok b → g b = g' a) {l : List α} {l' : List β} (h : l.mapM F = .ok l') :
    l'.map g = l.map g' := by
  induction l generalizing l' with
  | nil => cases h; rfl
  | cons a l ih =>
    rw [List.mapM_cons] at h
    obtain ⟨b, hb, h⟩ := bind_eq_ok h
    obtain ⟨bs, hbs, h⟩ := bind_eq_ok h
    cases h
    rw [List.map_cons, List.map_cons, hF hb, ih hbs]

theorem mapM_ok_length {α β ε : Type} {f : α → Except ε β} {l : List α} {vs : List β}
    (h : l.mapM f = .ok vs) : vs.length = l.length := by
  have := congrArg List.length (mapM_ok_map (g := fun _ => ()) (g' := fun _ => ()) (fun _ => rfl) h)
  rwa [List.length_map, List.length_map] at this

theorem length_flatMap_const {α β} {f : α → List β} (k : Nat) {l : List α}
    (h : ∀ a ∈ l, (f a).length = k) : (l.flatMap f).length = k * l.length := by
  induction l with
  | nil => rfl
  | cons a l ih =>
    rw [List.flatMap_cons, List.length_append, h a (List.mem_cons_self ..),
      ih (fun b hb => h b (List.mem_cons_of_mem _ hb)), List.length_cons, Nat.mul_succ, Nat.add_comm]

theorem mapM_except_error_of_mem {ε α β : Type} {f : α → Except ε β} {l : List α} {a : α} (ha : a ∈ l)
    {e : ε} (hf : f a = .error e) : ∃ e', l.mapM f = .error e' := by
  induction l with
  | nil => cases ha
  | cons x xs ih =>
    rw [List.mapM_cons]
    cases hx : f x with
    | error ex => exact ⟨ex, rfl⟩
    | ok b =>
      rcases List.mem_cons.mp ha with rfl | hmem
      · rw [hx] at hf; cases hf
      · obtain ⟨e', he'⟩ := ih hmem
        exact ⟨e', by rw [he']; rfl⟩

theorem foldlM_inv {ε α β : Type} (P : β → Prop) {f : β → α → Except ε β}
    (hf : ∀ b a b', P b → f b a = .ok b' → P b') {l : List α} {b b' : β} (hb : P b)
    (h : l.foldlM f b = .ok b') : P b' := by
  induction l generalizing b with
  | nil => rw [List.foldlM_nil] at h; cases h; exact hb
  | cons a l ih =>
    rw [List.foldlM_cons] at h
    obtain ⟨b1, h1, h⟩ := bind_eq_ok h
    exact ih (hf b a b1 hb h1) h

theorem max?_congr (ks₁ ks₂ : List Int) (h₁ : ∀ k ∈ ks₁, ∃ k' ∈ ks₂, k ≤ k')
    (h₂ : ∀ k ∈ ks₂, ∃ k' ∈ ks₁, k ≤ k') : ks₁.max? = ks₂.max? := by
  cases hm : ks₂.max? with
  | none =>
    rw [List.max?_eq_none_iff] at hm ⊢
    subst hm
    cases ks₁ with
    | nil => rfl
    | cons k _ =>
      obtain ⟨_, h, _⟩ := h₁ k List.mem_cons_self
      cases h
  | some x =>
    rw [List.max?_eq_some_iff] at hm ⊢
    obtain ⟨hx, hmax⟩ := hm
    obtain ⟨y, hy, hxy⟩ := h₂ x hx
    obtain ⟨x', hx', hyx'⟩ := h₁ y hy
    -- `x ≤ y ≤ x' ≤ x`: the maximum of one list is dominated by a member of the other, which is dominated back
    have : y = x := Int.le_antisymm (Int.le_trans hyx' (hmax x' hx')) hxy
    subst this
    refine ⟨hy, fun k hk => ?_⟩
    obtain ⟨k', hk', hkk'⟩ := h₁ k hk
    exact Int.le_trans hkk' (hmax k' hk')

section InsertionSort
variable {α : Type} (r : α → α → Prop) [DecidableRel r]

/-- insertion in front of the first `y` with `r x y`; folded from the right this is the stable
    insertion sort the model uses three times (`sortByAddr`, `sortByRank`, `sortByLenDesc`) -/
def insertBy (x : α) : List α → List α
  | [] => [x]
  | y :: ys => if r x y then x :: y :: ys else y :: insertBy x ys

theorem insertBy_unique {ins : α → List α → List α} (h0 : ∀ x, ins x [] = [x])
    (hc : ∀ x y ys, ins x (y :: ys) = if r x y then x :: y :: ys else y :: ins x ys) : ins = insertBy r := by
  funext x l
  induction l with
  | nil => exact h0 x
  | cons y ys ih => rw [hc, ih]; rfl

theorem insertBy_perm (x : α) (l : List α) : (insertBy r x l).Perm (x :: l) := by
  induction l with
  | nil => exact List.Perm.refl _
  | cons y ys ih =>
    simp only [insertBy]
    split
    · exact List.Perm.refl _
    · exact (List.Perm.cons y ih).trans (List.Perm.swap x y ys)

theorem sortBy_perm (l : List α) : (l.foldr (insertBy r) []).Perm l := by
  induction l with
  | nil => exact List.Perm.refl _
  | cons x xs ih => exact (insertBy_perm r x _).trans (List.Perm.cons x ih)

theorem sortBy_sorted (total : ∀ {a b}, ¬ r a b → r b a) (trans : ∀ {a b c}, r a b → r b c → r a c)
    (l : List α) : (l.foldr (insertBy r) []).Pairwise r := by
  have ins : ∀ (x : α) (l : List α), l.Pairwise r → (insertBy r x l).Pairwise r := by
    intro x l h
    induction l with
    | nil => simp [insertBy]
    | cons y ys ih =>
      simp only [insertBy]
      rw [List.pairwise_cons] at h
      split
      · rename_i hxy
        refine List.pairwise_cons.mpr ⟨fun b hb => ?_, List.pairwise_cons.mpr h⟩
        rcases List.mem_cons.mp hb with rfl | hb
        · exact hxy
        · exact trans hxy (h.1 b hb)
      · rename_i hxy
        refine List.pairwise_cons.mpr ⟨fun b hb => ?_, ih h.2⟩
        rcases List.mem_cons.mp ((insertBy_perm r x ys).mem_iff.mp hb) with rfl | hb
        · exact total hxy
        · exact h.1 b hb
  induction l with
  | nil => exact List.Pairwise.nil
  | cons x xs ih => exact ins x _ ih

/-- stability: elements that the order does not separate (a class `p` of which no member is ever
    inserted behind another one) keep their relative order -/
theorem sortBy_filter (p : α → Bool) (hp : ∀ {a b}, ¬ r a b → p a = true → p b = false) (l : List α) :
    (l.foldr (insertBy r) []).filter p = l.filter p := by
  have ins : ∀ (x : α) (l : List α), (insertBy r x l).filter p = (x :: l).filter p := by
    intro x l
    induction l with
    | nil => rfl
    | cons y ys ih =>
      simp only [insertBy]
      split
      · rfl
      · rename_i hxy
        rw [List.filter_cons, ih]
        cases hx : p x with
        | false => simp [List.filter_cons, hx]
        | true => simp [hx, hp hxy hx]
  induction l with
  | nil => rfl
  | cons x xs ih => rw [List.foldr_cons, ins, List.filter_cons, List.filter_cons, ih]

end InsertionSort

/-- dividing by `A` and reducing modulo `B` only looks at digits below `A * B` -/
theorem ediv_emod_of_mask (x : Int) {A : Int} (B K : Int) (hA : 0 < A) :
    (x % (A * (B * K))) / A % B = x / A % B := by
  have hx : x = x % (A * (B * K)) + A * (B * (K * (x / (A * (B * K))))) := by
    have := Int.emod_add_mul_ediv x (A * (B * K))
    rw [Int.mul_assoc, Int.mul_assoc] at this
    exact this.symm
  generalize x % (A * (B * K)) = y at hx
  generalize K * (x / (A * (B * K))) = t at hx
  subst hx
  rw [Int.add_mul_ediv_left _ _ (Int.ne_of_gt hA), Int.add_mul_emod_self_left]

/-- `Nat.mod_mul` for integers; no sign condition on `M`. -/
theorem emod_mul (v A M : Int) (hA : 0 ≤ A) : v % (A * M) = v % A + A * (v / A % M) := by
  rw [Int.emod_def v (A * M), ← Int.ediv_ediv_of_nonneg hA, Int.emod_def (v / A) M, Int.emod_def v A,
    Int.mul_sub, ← Int.add_sub_assoc, Int.sub_add_cancel, Int.mul_assoc]

theorem bitAt_ofNat (m i : Nat) : bitAt (Int.ofNat m) i = m.testBit i := by
  unfold bitAt
  rw [Nat.testBit_eq_decide_div_mod_eq, Bool.eq_iff_iff]
  simp only [beq_iff_eq, decide_eq_true_eq]
  have e : (Int.ofNat m) / (2 : Int) ^ i = ((m / 2 ^ i : Nat) : Int) := by
    rw [Int.natCast_ediv, Int.natCast_pow]; rfl
  rw [e]
  omega

theorem bitAt_negSucc (m i : Nat) : bitAt (Int.negSucc m) i = !m.testBit i := by
  unfold bitAt
  rw [Nat.testBit_eq_decide_div_mod_eq, Bool.eq_iff_iff]
  simp only [beq_iff_eq, Bool.not_eq_true', decide_eq_false_iff_not]
  have hp : (0 : Int) < 2 ^ i := Int.pow_pos (by decide)
  have e : (Int.negSucc m) / (2 : Int) ^ i = -(((m / 2 ^ i : Nat) : Int) + 1) := by
    rw [Int.negSucc_ediv m hp, Int.natCast_ediv, Int.natCast_pow]; rfl
  rw [e]
  omega

theorem byteAt_cast (v : Int) (k : Nat) : ((byteAt v k : Nat) : Int) = (v / 256 ^ k) % 256 := by
  unfold byteAt
  omega

theorem byteAt_zero (v : Int) : byteAt v 0 = (v % 256).toNat := by
  rw [byteAt, Int.pow_zero, Int.ediv_one]

theorem byteAt_succ (v : Int) (k : Nat) : byteAt v (k + 1) = byteAt (v / 256) k := by
  unfold byteAt
  rw [Int.pow_succ, Int.mul_comm, Int.ediv_ediv_of_nonneg (by decide)]

theorem byteAt_mod (v : Int) {w j : Nat} (hj : j < w) :
    byteAt (v % (2 : Int) ^ (8 * w)) j = byteAt v j := by
  unfold byteAt
  have e : (2 : Int) ^ (8 * w) = 256 ^ j * (256 * 2 ^ (8 * (w - j - 1))) := by
    have : 8 * w = 8 * j + (8 + 8 * (w - j - 1)) := by omega
    rw [this, Int.pow_add, Int.pow_add, Int.pow_mul]; rfl
  have hA : (0 : Int) < 256 ^ j := Int.pow_pos (by decide)
  rw [e, ediv_emod_of_mask v 256 _ hA]

theorem byteAt_testBit {v : Int} {k b : Nat} (hb : b < 8) :
    (byteAt v k).testBit b = bitAt v (8 * k + b) := by
  have e : (2 : Int) ^ (8 * k + b) = 256 ^ k * 2 ^ b := by rw [Int.pow_add, Int.pow_mul]; rfl
  have h256 : (256 : Int) = 2 ^ b * (2 * 2 ^ (7 - b)) := by
    rw [← Int.pow_succ', ← Int.pow_add, show b + (7 - b + 1) = 8 by omega]; rfl
  rw [← bitAt_ofNat, Int.ofNat_eq_natCast, byteAt_cast, bitAt, bitAt, e,
    ← Int.ediv_ediv_of_nonneg (Int.pow_nonneg (by decide))]
  generalize v / 256 ^ k = w
  rw [h256, ediv_emod_of_mask _ _ _ (Int.pow_pos (by decide))]

end BV
