-- root of the library: everything, so that the MANIFEST setup command builds model, lemmas and all property theorems once
import BespokeVerif.Model.Basic
import BespokeVerif.Model.Bits
import BespokeVerif.Model.Cond
import BespokeVerif.Model.Config
import BespokeVerif.Model.Constraint
import BespokeVerif.Model.Expr
import BespokeVerif.Model.Include
import BespokeVerif.Model.Instr
import BespokeVerif.Model.Layout
import BespokeVerif.Model.Parse
import BespokeVerif.Model.Macro
import BespokeVerif.Model.Output
import BespokeVerif.Model.Pipeline
import BespokeVerif.Model.Regex
import BespokeVerif.Model.Run
import BespokeVerif.Model.Scan
import BespokeVerif.Model.Select
import BespokeVerif.Model.Split
import BespokeVerif.Model.Str
import BespokeVerif.Model.Subst
import BespokeVerif.Lemmas.Basics
import BespokeVerif.Lemmas.Bits
import BespokeVerif.Lemmas.Cond
import BespokeVerif.Lemmas.Config
import BespokeVerif.Lemmas.Constraint
import BespokeVerif.Lemmas.Data
import BespokeVerif.Lemmas.Determinism
import BespokeVerif.Lemmas.Fuel
import BespokeVerif.Lemmas.ExprEval
import BespokeVerif.Lemmas.ExprLex
import BespokeVerif.Lemmas.ExprParse
import BespokeVerif.Lemmas.Image
import BespokeVerif.Lemmas.ImageFast
import BespokeVerif.Lemmas.FormatsImage
import BespokeVerif.Model.Listing
import BespokeVerif.Lemmas.Listing
import BespokeVerif.Lemmas.Include
import BespokeVerif.Lemmas.Layout
import BespokeVerif.Lemmas.LexFuel
import BespokeVerif.Lemmas.Macro
import BespokeVerif.Lemmas.Output
import BespokeVerif.Lemmas.Parse
import BespokeVerif.Lemmas.ParseStep
import BespokeVerif.Lemmas.ParseFuel
import BespokeVerif.Lemmas.ParseRoundTrip
import BespokeVerif.Lemmas.Regex
import BespokeVerif.Lemmas.Run
import BespokeVerif.Lemmas.Scan
import BespokeVerif.Lemmas.Scope
import BespokeVerif.Lemmas.Select
import BespokeVerif.Lemmas.Split
import BespokeVerif.Lemmas.StmtSize
import BespokeVerif.Lemmas.Subst
import BespokeVerif.Props.C01
import BespokeVerif.Props.C02
import BespokeVerif.Props.C03
import BespokeVerif.Props.C04
import BespokeVerif.Props.C05
import BespokeVerif.Props.C06
import BespokeVerif.Props.C07
import BespokeVerif.Props.C08
import BespokeVerif.Props.C09
import BespokeVerif.Props.C10
import BespokeVerif.Props.C11
import BespokeVerif.Props.C12
import BespokeVerif.Props.C13
import BespokeVerif.Props.C14
import BespokeVerif.Props.C15
import BespokeVerif.Props.C16
import BespokeVerif.Props.C17
import BespokeVerif.Props.C18
import BespokeVerif.Props.C19
import BespokeVerif.Props.C20
